/-
  Fx.Supported — the supported subset of DESIGN §3.3 as a decidable predicate on the `Ast`
  (read off the specification, no emitter involved).  It is the hypothesis of the
  specification-level theorems; the driver evaluates it for every generated specification.
-/
import Fx.Xdr
import Fx.Emit
namespace Fx

def declared (a : Ast) (n : String) : Bool := (bget n a.types).isSome

def basicDeclared (a : Ast) : BasicType → Bool
  | .ident n => declared a n
  | _ => true

/-- a bound is a literal or a decimal constant -/
def boundOk (a : Ast) : ArraySize → Bool
  | .known _ => true
  | .constant c =>
    (match bget c a.constants with
     | some (.constValue t) => (parseU32 t).isSome
     | _ => false)

def optBoundOk (a : Ast) : Option ArraySize → Bool
  | none => true
  | some s => boundOk a s

/-- a non-optional declarator of a struct field -/
def declaratorOk (a : Ast) : ArrayType → Bool
  | .none .opaque => false                      -- bracket-less `opaque x;` (finding K1)
  | .none t => basicDeclared a t
  | .fixed .string _ => false                   -- fixed-length string (panics: K6.e)
  | .fixed t sz => basicDeclared a t && boundOk a sz
  | .variable .opaque m => optBoundOk a m
  | .variable .string m => optBoundOk a m
  | .variable (.ident n) m => declared a n && optBoundOk a m
  | .variable _ _ => false                      -- counted arrays of primitives (orphan rule, README)

def fieldOk (a : Ast) (f : StructField) : Bool :=
  f.fieldName != "TRUE" && f.fieldName != "FALSE" &&
  if f.isOptional then
    (match f.fieldValue with
     | .none (.ident n) => declared a n
     | _ => false)
  else declaratorOk a f.fieldValue

/-- a union arm: `type name;` with a type other than `opaque` (finding K1) -/
def armTypeOk (a : Ast) : ArrayType → Bool
  | .none .opaque => false
  | .none t => basicDeclared a t
  | _ => false

def labelKindOk (a : Ast) (k : DiscKind) (l : String) : Bool :=
  l != "default" &&
  (match k with
   | .bool => l == "TRUE" || l == "FALSE"
   | .enum e => e.variants.any (·.name == l)
   | .u32 => (labelValue a l).isSome && l != "TRUE" && l != "FALSE" && safeName l == l
   | .i32 => (match labelValue a l with | some v => v < 2^31 | none => false) && l != "TRUE" && l != "FALSE" && safeName l == l
   | .unsupported => false)

def allLabels (u : Union) : List String :=
  (u.cases.map (·.caseValues)).flatten ++ u.voidCases.filter (· != "default") ++
    (match u.default with | some d => d.caseValues.filter (· != "default") | none => [])

def distinctNats (l : List Nat) : Bool := l.eraseDups.length == l.length

def unionOk (a : Ast) (u : Union) : Bool :=
  let k := discKind a u.switch.varType
  (match k with | .unsupported => false | _ => true) &&
  u.cases.all (fun c => armTypeOk a c.fieldValue && !c.caseValues.isEmpty) &&
  (match u.default with
   | some d => armTypeOk a d.fieldValue && !(u.voidCases.contains "default") && d.caseValues.contains "default"
   | none => true) &&
  (allLabels u).all (labelKindOk a k) &&
  distinctNats ((allLabels u).filterMap (labelValue a)) &&
  -- a void default, if any, is the last void label (later labels would be unreachable)
  (match u.voidCases.reverse with
   | [] => true
   | _ :: rest => !(rest.contains "default"))

def variantNat (v : Variant) : Option Nat :=
  match v.value with | .numeric i => some i.toNat | .str _ => none

def enumOk (e : Enum) : Bool :=
  !e.variants.isEmpty && decide ((e.variants.map (·.name)).Nodup) &&
  e.variants.all (fun v => match v.value with | .numeric i => 0 ≤ i && i < 2^31 | .str _ => false) &&
  decide ((e.variants.map variantNat).Nodup)

def typedefOk (a : Ast) (td : Typedef) : Bool :=
  (match td.alias.unwrapArray with | .ident n => n != td.target.asStr | _ => false) &&
  (match td.target, td.alias with
   | .opaque, .none _ => true
   | .opaque, .fixed _ sz => boundOk a sz
   | .opaque, .variable _ (some sz) => boundOk a sz
   | .opaque, .variable _ none => false          -- `Typedef::new` never produces it
   | .string, _ => false
   | .ident n, .none _ => declared a n
   | .ident n, .fixed _ sz => declared a n && boundOk a sz
   | .ident n, .variable _ m => declared a n && optBoundOk a m
   | _, .none _ => true                          -- a primitive
   | _, _ => false)

def typeOk (a : Ast) : AstType → Bool
  | .struct s => !s.fields.isEmpty && s.fields.all (fieldOk a)
  | .union u => unionOk a u
  | .enum e => enumOk e
  | .typedef td => typedefOk a td

def keysSorted : List (String × AstType) → Bool
  | [] => true
  | [_] => true
  | a :: b :: rest => decide (a.1 < b.1) && keysSorted (b :: rest)

def nameSafe (n : String) : Bool := (BasicType.ident n).asSafeString == n

/-- the type index is what `TypeIndex::new` builds: keyed by the declarations' own names (none of which needs escaping), strictly sorted -/
def keysOk (a : Ast) : Bool := a.types.all (fun kv => kv.1 == kv.2.rustName && nameSafe kv.1) && keysSorted a.types

/-- no sign in front of a constant's value (the grammar cannot produce one; Rust's `parse::<u32>` would accept `+5`) -/
def plusFree (t : String) : Bool :=
  match t.toList with
  | '+' :: _ => false
  | _ => true

/-- constant and enum-member names are identifiers proper: not numerals (a label `5` must mean five) and not TRUE/FALSE -/
def constNamesOk (a : Ast) : Bool :=
  a.constants.all fun kv => (parseDecOrHex kv.1).isNone && kv.1 != "TRUE" && kv.1 != "FALSE" &&
    (match kv.2 with | .constValue t => safeName t == t && plusFree t | _ => true)

/-- every enum member is in the constant index under its own name, pointing at its enum (what `ConstantIndex::new` builds) -/
def enumConstsOk (a : Ast) : Bool :=
  a.types.all fun kv => match kv.2 with
    | .enum e => e.variants.all fun v => decide (bget v.name a.constants = some (.enumValue kv.1 v.name))
    | _ => true

/-- every enum entry of the constant index names a member of a declared enum -/
def constsWellFormed (a : Ast) : Bool :=
  a.constants.all fun kv => match kv.2 with
    | .constValue _ => true
    | .enumValue e v => v == kv.1 &&
        (match bget e a.types with
         | some (.enum en) => en.variants.any (·.name == v)
         | _ => false)


/-! ### side conditions of `C07_decoders_fit_declarations` that `Supported` leaves to rustc (all decidable; the driver evaluates them) -/

/-- the parameter lists of typedefs and enums as the generic index assigns them (what `C13_typedef_param_consistent` proves of
    every `Ast` the front end builds; an enum reaches no opaque data) -/
def paramsOk (a : Ast) : Bool :=
  a.types.all fun kv =>
    match kv.2 with
    | .typedef t => a.isGeneric kv.1 == (t.target.isOpaque || a.targetGeneric t.target)
    | .enum _ => !(a.isGeneric kv.1)
    | _ => true

def isEnumConst (a : Ast) (l : String) : Bool :=
  match a.getConst l with
  | some (.enumValue _ _) => true
  | _ => false

/-- what `Supported` leaves to rustc about the labels of integer-switched unions: the value fits the discriminant's type, and an
    enum member is cast to the primitive the discriminant is decoded as (`E::V as u32`; after repair e0a4211 also when the
    switch type is a typedef of it — before, the cast named the typedef and did not compile: the hypothesis this proof
    forced was the defect) -/
def labelsTypedU (a : Ast) (u : Union) : Bool :=
  match discKind a u.switch.varType with
  | .u32 => (allLabels u).all fun l =>
      (match labelValue a l with | some v => decide (v < 2^32) | none => false) && (!isEnumConst a l || (switchCastType a u.switch.varType).asSafeString == "u32")
  | .i32 => (allLabels u).all fun l => (!isEnumConst a l || (switchCastType a u.switch.varType).asSafeString == "i32")
  | _ => true

def labelsTyped (a : Ast) : Bool :=
  a.types.all fun kv =>
    match kv.2 with
    | .union u => labelsTypedU a u
    | _ => true

/-- the variants `print_types` declares for a union: one per label, in the order data labels, void labels, default -/
def unionVariants (a : Ast) (u : Union) : List (String × Option TyExpr) :=
  (u.cases.map fun c => c.caseValues.map fun l => (l, some (armTy a c.fieldValue))).flatten
    ++ u.voidCases.map (fun l => (l, none))
    ++ (match u.default with | some d => [("default", some (armTy a d.fieldValue))] | none => [])

/-- no two labels of one union give the same variant name (`1` and `v_1` would): part of what `Supported` leaves to rustc -/
def variantsDistinctU (a : Ast) (u : Union) : Bool := decide (((unionVariants a u).map fun x => nonDigitName x.1).Nodup)

def variantsDistinct (a : Ast) : Bool :=
  a.types.all fun kv =>
    match kv.2 with
    | .union u => variantsDistinctU a u
    | _ => true

/-- no constant is named `c`: the emitted union decoders bind the discriminant as `c` in `c if c == E::V as ty`, and a `pub const c`
    turns that binding into a constant pattern (finding K14: it compiles, and decodes wrongly) -/
def noGuardConst (a : Ast) : Bool := (bget "c" a.constants).isNone

/-- the supported subset -/
def Supported (a : Ast) : Bool :=
  keysOk a && a.types.all (fun kv => typeOk a kv.2) && constNamesOk a && enumConstsOk a && constsWellFormed a && noGuardConst a

end Fx
