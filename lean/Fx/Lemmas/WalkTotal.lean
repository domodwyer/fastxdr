/-
  Fx.Lemmas.WalkTotal — a typing of the grammar, for "`walk` and the constructors succeed or stop at one of five sites"
  (`Good`; findings K6.a, b, c, d, f; the theorem about texts is `Ast.new_known_panics`, Lemmas/KnownPanics).  `kind` gives each
  rule a node type (a set of node lists), `Den Γ e` extends a typing to expressions, `walk_typed` shows by induction on
  `Shape` that the tokens of `e` walk into `Den Γ e` if every rule respects its type (`RuleOK`), and `xdr_typed` checks that
  rule by rule on the grammar regenerated from `src/xdr.pest`: a change to the grammar re-opens it.
-/
import Fx.Lemmas.PegShape
import Fx.Lemmas.WalkEq
import Fx.Index
namespace Fx
open Peg

def knownSites : List (String × String) :=
  [("union.rs", "invalid number of union field tokens"),                       -- K6.a
   ("structure.rs", "invalid number of struct field tokens"),                  -- K6.b
   ("enumeration.rs", "called `Result::unwrap()` on an `Err` value"),          -- K6.c
   ("constants.rs", "duplicate case keys"),                                    -- K6.d
   ("structure.rs", "unexpected struct field option layout")]                  -- K6.f

theorem known_a : ("union.rs", "invalid number of union field tokens") ∈ knownSites := by
  simp [knownSites]
theorem known_b : ("structure.rs", "invalid number of struct field tokens") ∈ knownSites := by
  simp [knownSites]
theorem known_c : ("enumeration.rs", "called `Result::unwrap()` on an `Err` value") ∈ knownSites := by
  simp [knownSites]
theorem known_d : ("constants.rs", "duplicate case keys") ∈ knownSites := by
  simp [knownSites]
theorem known_f : ("structure.rs", "unexpected struct field option layout") ∈ knownSites := by
  simp [knownSites]

def Good {α} (o : Out α) (P : α → Prop) : Prop :=
  match o with
  | .ok x => P x
  | .panicAt f m => (f, m) ∈ knownSites

theorem Good.ok {α} {x : α} {P : α → Prop} (h : P x) : Good (.ok x) P := h

theorem Good.bind {α β} {o : Out α} {k : α → Out β} {P : α → Prop} {Q : β → Prop}
    (h1 : Good o P) (h2 : ∀ x, P x → Good (k x) Q) : Good (o.bind k) Q := by
  cases o with
  | ok x => exact h2 x h1
  | panicAt f m => exact h1

theorem Good.of_bind {α β} {o : Out α} {k : α → Out β} {Q : β → Prop} (h : Good (o.bind k) Q) : Good o fun x => Good (k x) Q := by
  cases o <;> exact h

theorem Good.mono {α} {o : Out α} {P Q : α → Prop} (h : Good o P) (hpq : ∀ x, P x → Q x) : Good o Q := by
  cases o with
  | ok x => exact hpq x h
  | panicAt f m => exact h

theorem Good.mapOut {α β} (f : α → Out β) (P : α → Prop) (hf : ∀ x, P x → Good (f x) (fun _ => True)) :
    ∀ (l : List α), (∀ x ∈ l, P x) → Good (mapOut f l) (fun _ => True)
  | [], _ => trivial
  | x :: xs, hall => by
    rw [Fx.mapOut]
    refine Good.bind (hf x (hall x List.mem_cons_self)) fun b _ => ?_
    exact Good.bind (Good.mapOut f P hf xs fun y hy => hall y (List.mem_cons_of_mem _ hy)) fun _ _ => trivial

-- sets of lists, built like the expressions of a grammar

namespace Nodes
variable {α : Type}

def nil : List α → Prop := (· = [])
def app (P Q : List α → Prop) : List α → Prop := fun ns => ∃ n1 n2, ns = n1 ++ n2 ∧ P n1 ∧ Q n2
def alt (P Q : List α → Prop) : List α → Prop := fun ns => P ns ∨ Q ns
def star (P : List α → Prop) : List α → Prop := fun ns => ∃ nss : List (List α), ns = nss.flatten ∧ ∀ l ∈ nss, P l
def one (P : α → Prop) : List α → Prop := fun ns => ∃ n, ns = [n] ∧ P n
def all (P : α → Prop) : List α → Prop := fun ns => ∀ n ∈ ns, P n

theorem app_nil_left (Q : List α → Prop) : app nil Q = Q := by
  funext ns
  refine propext ⟨?_, fun h => ⟨[], ns, rfl, rfl, h⟩⟩
  rintro ⟨_, _, rfl, rfl, h⟩
  exact h

theorem app_nil_right (P : List α → Prop) : app P nil = P := by
  funext ns
  refine propext ⟨?_, fun h => ⟨ns, [], (List.append_nil _).symm, h, rfl⟩⟩
  rintro ⟨_, _, rfl, h, rfl⟩
  rwa [List.append_nil]

theorem alt_self (P : List α → Prop) : alt P P = P := by
  funext ns
  exact or_self _

theorem flatten_singletons (ns : List α) : (ns.map ([·])).flatten = ns := by
  induction ns with
  | nil => rfl
  | cons n ns ih => simp only [List.map_cons, List.flatten_cons, ih, List.singleton_append]

theorem star_one (P : α → Prop) : star (one P) = all P := by
  funext ns
  refine propext ⟨?_, fun h => ⟨ns.map ([·]), (flatten_singletons ns).symm, fun l hl => ?_⟩⟩
  · rintro ⟨nss, rfl, hall⟩ n hn
    obtain ⟨l, hl, hnl⟩ := List.mem_flatten.mp hn
    obtain ⟨m, rfl, hm⟩ := hall l hl
    rwa [List.mem_singleton.mp hnl]
  · obtain ⟨n, hn, rfl⟩ := List.mem_map.mp hl
    exact ⟨n, rfl, h n hn⟩

theorem one_singleton (P : α → Prop) (n : α) : one P [n] ↔ P n := by
  refine ⟨?_, fun h => ⟨n, rfl, h⟩⟩
  rintro ⟨_, h, hp⟩
  cases h
  exact hp

theorem app_one {P : α → Prop} {Q : List α → Prop} {ns : List α} (h : app (one P) Q ns) :
    ∃ n rest, ns = n :: rest ∧ P n ∧ Q rest := by
  obtain ⟨_, rest, rfl, ⟨n, rfl, hn⟩, hq⟩ := h
  exact ⟨n, rest, rfl, hn, hq⟩

end Nodes
open Nodes

theorem Good.walk_append {t1 t2 : List Pair} {P Q : List Node → Prop} (h1 : Good (walkAll t1) P) (h2 : Good (walkAll t2) Q) :
    Good (walkAll (t1 ++ t2)) (app P Q) := by
  rw [walkAll_append]
  exact h1.bind fun n1 hn1 => h2.bind fun n2 hn2 => ⟨n1, n2, rfl, hn1, hn2⟩

theorem Good.walk_single {p : Pair} {P : List Node → Prop} (h : Good (walk p) fun n => P [n]) : Good (walkAll [p]) P := by
  rw [walkAll_single]
  exact h.bind fun n hn => hn

section typing
variable (Γ : String → Option (List Node → Prop))

/-- the node lists `walkAll` can yield on the tokens of `e` -/
def Den : Expr → List Node → Prop
  | .ref n => match Γ n with | some P => P | none => fun _ => False
  | .seq a b => app (Den a) (Den b)
  | .alt a b => alt (Den a) (Den b)
  | .opt e => alt nil (Den e)
  | .star e => star (Den e)
  | .plus e => app (Den e) (star (Den e))
  | .eoi => (· = [.eof])
  | _ => nil

def Scoped : Expr → Prop
  | .ref n => ∃ P, Γ n = some P
  | .seq a b | .alt a b => Scoped a ∧ Scoped b
  | .star e | .plus e | .opt e => Scoped e
  | _ => True

/-- what `walk` does with the token of a rule respects the rule's node type, given those of the rules it refers to -/
def RuleOK (r : Rule) : Prop :=
  match Γ r.name with
  | none => True
  | some P =>
    match r.ty with
    | .normal => Scoped Γ r.body ∧ ∀ txt cs, Good (walkAll cs) (Den Γ r.body) → Good (walk (.mk r.name txt cs)) fun n => P [n]
    | .silent => Scoped Γ r.body ∧ ∀ ns, Den Γ r.body ns → P ns
    | .atomic => ∀ txt, Good (walk (.mk r.name txt [])) fun n => P [n]

variable {Γ} {g : Grammar}

theorem RuleOK.of_find {n : String} {r : Rule} {P : List Node → Prop} (hΓ : ∀ r ∈ g, RuleOK Γ r) (hf : g.find n = some r)
    (hP : Γ n = some P) :
    match r.ty with
    | .normal => Scoped Γ r.body ∧ ∀ txt cs, Good (walkAll cs) (Den Γ r.body) → Good (walk (.mk n txt cs)) fun m => P [m]
    | .silent => Scoped Γ r.body ∧ ∀ ns, Den Γ r.body ns → P ns
    | .atomic => ∀ txt, Good (walk (.mk n txt [])) fun m => P [m] := by
  obtain ⟨hr, rfl⟩ := Grammar.find_some hf
  have hok := hΓ r hr
  rw [RuleOK, hP] at hok
  exact hok

theorem walk_typed (hlay : ∀ n, (n == "WHITESPACE" || n == "COMMENT") = true → Γ n = none) (hΓ : ∀ r ∈ g, RuleOK Γ r) :
    ∀ {a e ts}, Shape g a e ts → a = false → Scoped Γ e → Good (walkAll ts) (Den Γ e) := by
  intro a e ts h
  induction h with
  | str | any | soi | digit | alnum | newline | not =>
    intro _ _
    rw [walkAll_nil]
    rfl
  | starNil =>
    intro _ _
    rw [walkAll_nil]
    exact ⟨[], rfl, nofun⟩
  | eoiAtomic | refInAtomic =>
    intro h
    cases h
  | eoi =>
    intro _ _
    rw [walkAll_single, walk_EOI]
    rfl
  | optNone =>
    intro _ _
    exact Or.inl rfl
  | optSome _ ih =>
    intro ha hd
    exact (ih ha hd).mono fun _ => Or.inr
  | altL _ ih =>
    intro ha hd
    exact (ih ha hd.1).mono fun _ => Or.inl
  | altR _ ih =>
    intro ha hd
    exact (ih ha hd.2).mono fun _ => Or.inr
  | seq _ _ ih1 ih2 =>
    intro ha hd
    exact Good.walk_append (ih1 ha hd.1) (ih2 ha hd.2)
  | starCons _ _ ih1 ih2 =>
    intro ha hd
    refine (Good.walk_append (ih1 ha hd) (ih2 ha hd)).mono ?_
    rintro _ ⟨n1, _, rfl, h1, nss, rfl, hall⟩
    exact ⟨n1 :: nss, rfl, List.forall_mem_cons.mpr ⟨h1, hall⟩⟩
  | plus _ ih =>
    intro ha hd
    exact ih ha ⟨hd, hd⟩
  | refSkip hw =>
    intro _ hd
    obtain ⟨P, hP⟩ := hd
    rw [hlay _ hw] at hP
    cases hP
  | refSilent hf _ hty _ ih =>
    intro ha hd
    obtain ⟨P, hP⟩ := hd
    have hok := RuleOK.of_find hΓ hf hP
    rw [hty] at hok
    rw [Den, hP]
    exact (ih ha hok.1).mono hok.2
  | @refNormal n r txt ts hf _ hty _ ih =>
    intro ha hd
    obtain ⟨P, hP⟩ := hd
    have hok := RuleOK.of_find hΓ hf hP
    rw [hty] at hok
    rw [Den, hP]
    exact Good.walk_single (hok.2 txt ts (ih ha hok.1))
  | @refAtomic n r txt hf _ hty =>
    intro _ hd
    obtain ⟨P, hP⟩ := hd
    have hok := RuleOK.of_find hΓ hf hP
    rw [hty] at hok
    rw [Den, hP]
    exact Good.walk_single (hok txt)

end typing

def IsType (n : Node) : Prop := ∃ t, n = .type t
def IsArr (n : Node) : Prop := (∃ s, n = .arrayVariable s) ∨ (∃ s, n = .arrayFixed s)
def IsOpt (n : Node) : Prop := ∃ t, n = .option [.type t]
/-- the nodes of a `data_field`: a type, then a name or `*name`, then possibly an array suffix -/
def fieldNodes (l : List Node) : Prop :=
  ∃ (t : BasicType) (o : Node), (IsType o ∨ IsOpt o) ∧ (l = [.type t, o] ∨ ∃ arr, IsArr arr ∧ l = [.type t, o, arr])
def bodyNodes (ns : List Node) : Prop := (∃ l, fieldNodes l ∧ ns = [.unionDataField l]) ∨ ns = [.unionVoid]
def caseNodes (ns : List Node) : Prop := ∃ t, ns = [.type t] ∨ ∃ b, bodyNodes b ∧ ns = .type t :: b
def IsArm (n : Node) : Prop := (∃ ns, n = .unionCase ns ∧ caseNodes ns) ∨ (∃ ns, n = .unionDefault ns ∧ bodyNodes ns)
def IsDecl (n : Node) : Prop :=
  (∃ a b, n = .constant [.type a, .type b]) ∨ (∃ t, n = .typedef t) ∨ (∃ e, n = .enum e) ∨ (∃ s, n = .struct s) ∨ (∃ u, n = .union u)

inductive NTy | type | arr | opt | field | sfield | ufield | void | arm | variant | decl | root

def NTy.den : NTy → List Node → Prop
  | .type => one IsType
  | .arr => one IsArr
  | .opt => one IsOpt
  | .field => fieldNodes
  | .sfield => one fun n => ∃ l, n = .structDataField l ∧ fieldNodes l
  | .ufield => one fun n => ∃ l, n = .unionDataField l ∧ fieldNodes l
  | .void => (· = [.unionVoid])
  | .arm => one IsArm
  | .variant => one fun n => ∃ a b, n = .enumVariant [.type a, .type b]
  | .decl => one IsDecl
  | .root => one fun n => ∃ l, n = .root l ∧ ∀ m ∈ l, IsDecl m ∨ m = .eof

/-- `none`: the layout rules and the rules only `COMMENT` uses -/
def kind (n : String) : Option NTy :=
  if n = "ident" ∨ n = "ident_const" ∨ n = "ident_value" ∨ n = "basic_type" ∨ n = "array_length" ∨ n = "union_case_value" then
    some .type
  else if n = "array_variable" ∨ n = "array_fixed" ∨ n = "array" then some .arr
  else if n = "option" then some .opt
  else if n = "data_field" then some .field
  else if n = "struct_data_field" then some .sfield
  else if n = "union_data_field" then some .ufield
  else if n = "union_void" then some .void
  else if n = "union_case" ∨ n = "union_default" then some .arm
  else if n = "enum_variant" then some .variant
  else if n = "constant" ∨ n = "typedef" ∨ n = "enum_type" ∨ n = "struct_type" ∨ n = "union" then some .decl
  else if n = "item" then some .root
  else none

def nodeTy (n : String) : Option (List Node → Prop) := (kind n).map NTy.den

/-- `kind` on the names of the grammar, evaluated once; `simp` uses each line as a rewrite rule instead of unfolding `kind` -/
theorem kind_xdr :
    kind "ident" = some .type ∧
    kind "ident_const" = some .type ∧
    kind "ident_value" = some .type ∧
    kind "basic_type" = some .type ∧
    kind "comment" = none ∧
    kind "comment_long_inner" = none ∧
    kind "comment_long" = none ∧
    kind "comment_short_inner" = none ∧
    kind "comment_short" = none ∧
    kind "constant" = some .decl ∧
    kind "enum_type" = some .decl ∧
    kind "enum_variant" = some .variant ∧
    kind "array" = some .arr ∧
    kind "array_variable" = some .arr ∧
    kind "array_fixed" = some .arr ∧
    kind "array_length" = some .type ∧
    kind "struct_type" = some .decl ∧
    kind "struct_data_field" = some .sfield ∧
    kind "option" = some .opt ∧
    kind "data_field" = some .field ∧
    kind "union" = some .decl ∧
    kind "union_case_value" = some .type ∧
    kind "union_data_field" = some .ufield ∧
    kind "union_case" = some .arm ∧
    kind "union_void" = some .void ∧
    kind "union_default" = some .arm ∧
    kind "typedef" = some .decl ∧
    kind "item" = some .root ∧
    kind "WHITESPACE" = none ∧
    kind "COMMENT" = none := by
  simp [kind]

theorem nodeTy_layout (n : String) (h : (n == "WHITESPACE" || n == "COMMENT") = true) : nodeTy n = none := by
  rcases (by simpa using h : n = "WHITESPACE" ∨ n = "COMMENT") with rfl | rfl <;> simp only [nodeTy, kind_xdr, Option.map_none]

theorem nodeTy_item : nodeTy "item" = some (NTy.den .root) := by
  simp only [nodeTy, kind_xdr, Option.map_some]

/-- K6.b, K6.f -/
theorem structField_good (l : List Node) (h : fieldNodes l) : Good (StructField.new (.structDataField l)) (fun _ => True) := by
  obtain ⟨t, o, ho, hl⟩ := h
  rcases hl with rfl | ⟨arr, harr, rfl⟩
  · rcases ho with ⟨t2, rfl⟩ | ⟨t2, rfl⟩
    · cases t2 with
      | ident s => trivial
      | _ => exact known_b
    · cases t2 with
      | ident s => trivial
      | _ => exact known_f
  · rcases ho with ⟨t2, rfl⟩ | ⟨t2, rfl⟩
    · rcases harr with ⟨sz, rfl⟩ | ⟨sz, rfl⟩ <;> cases t2 with
        | ident s => trivial
        | _ => exact known_b
    · rcases harr with ⟨sz, rfl⟩ | ⟨sz, rfl⟩ <;> exact known_b

theorem variantValue_good (v : String) : Good (VariantValue.ofStr v) (fun _ => True) := by
  unfold VariantValue.ofStr
  split
  · -- a hex literal, with or without a sign: every failure is the one `unwrap` (K6.c)
    dsimp only
    split <;>
    · split
      · exact known_c
      · split
        · split
          · trivial
          · exact known_c
        · exact known_c
  · split <;> trivial

theorem variant_good (a b : BasicType) : Good (Variant.new (.enumVariant [.type a, .type b])) (fun _ => True) := by
  simp only [Variant.new, Node.identStr, Out.bind_ok]
  exact Good.bind (variantValue_good _) (fun _ _ => trivial)

/-- K6.a -/
theorem unionCase_good (cv : List String) (l : List Node) (h : fieldNodes l) : Good (UnionCase.new cv l) (fun _ => True) := by
  obtain ⟨t, o, ho, hl⟩ := h
  rcases hl with rfl | ⟨arr, harr, rfl⟩
  · rcases ho with ⟨t2, rfl⟩ | ⟨t2, rfl⟩
    · cases t2 with
      | ident s => trivial
      | _ => exact known_a
    · exact known_a
  · rcases ho with ⟨t2, rfl⟩ | ⟨t2, rfl⟩
    · cases t2 <;> exact known_a
    · exact known_a

theorem caseStmt_good_body (cv : List String) (b : List Node) (hb : bodyNodes b) : Good (CaseStmt.parse cv b) (fun _ => True) := by
  rcases hb with ⟨l, hl, rfl⟩ | rfl
  · rw [CaseStmt.parse]
    exact Good.bind (unionCase_good cv l hl) (fun _ _ => trivial)
  · trivial

theorem caseStmt_good_case (cv : List String) (ns : List Node) (h : caseNodes ns) : Good (CaseStmt.parse cv ns) (fun _ => True) := by
  obtain ⟨t, rfl | ⟨b, hb, rfl⟩⟩ := h
  · trivial
  · have e : CaseStmt.parse cv (.type t :: b) = CaseStmt.parse (cv ++ [t.asStr]) b := by
      rcases hb with ⟨l, _, rfl⟩ | rfl <;> rfl
    rw [e]
    exact caseStmt_good_body _ b hb

theorem unionStep_good (acc : UAcc) (n : Node) (h : IsArm n) : Good (Union.step acc n) (fun _ => True) := by
  rcases h with ⟨ns, rfl, hns⟩ | ⟨ns, rfl, hns⟩
  · simp only [Union.step]
    refine Good.bind (caseStmt_good_case _ ns hns) (fun stmt _ => ?_)
    cases stmt <;> trivial
  · simp only [Union.step]
    refine Good.bind (caseStmt_good_body _ ns hns) (fun stmt _ => ?_)
    cases stmt <;> trivial

theorem unionLoop_good : ∀ (arms : List Node) (acc : UAcc), (∀ n ∈ arms, IsArm n) → Good (Union.loop acc arms) (fun _ => True)
  | [], _, _ => trivial
  | n :: rest, acc, h => by
    rw [Union.loop]
    exact Good.bind (unionStep_good acc n (h n List.mem_cons_self)) fun acc' _ =>
      unionLoop_good rest acc' fun m hm => h m (List.mem_cons_of_mem _ hm)

theorem xdr_typed : ∀ r ∈ Grammar.xdr, RuleOK nodeTy r := by
  -- Each rule with its type, the types of its references and its arm of `walk` put in: the untyped rules drop out, the others
  -- are left as one conjunct each, in the order of the grammar.  A normal rule, here `constant` (literals contribute `nil`):
  --   ∀ txt cs, Good (walkAll cs) (app (one IsType) (one IsType)) →
  --     Good ((walkAll cs).bind fun ns => .ok (.constant ns)) fun n => IsDecl n
  -- a silent rule: an inclusion of node sets (`∀ ns, Den body ns → P ns`); an atomic rule: no children.
  simp only [Grammar.xdr, List.forall_mem_cons, RuleOK, Scoped, Den, nodeTy, kind_xdr, Option.map_some, Option.map_none, NTy.den,
    walk_item, walk_typedef, walk_constant, walk_ident, walk_ident_const, walk_ident_value, walk_enum_type, walk_enum_variant,
    walk_array_variable, walk_array_fixed, walk_struct_type, walk_struct_data_field, walk_union_data_field, walk_union,
    walk_union_case, walk_union_default, walk_union_void, walk_option, walk_basic_type,
    app_nil_left, app_nil_right, alt_self, star_one, one_singleton, List.not_mem_nil, false_imp_iff, implies_true,
    Option.some.injEq, exists_eq', true_and, and_true]
  refine ⟨?ident, ?ident_const, ?ident_value, ?basic_type, ?constant, ?enum_type, ?enum_variant, ?array, ?array_variable,
    ?array_fixed, ?array_length, ?struct_type, ?struct_data_field, ?option, ?data_field, ?union, ?union_case_value,
    ?union_data_field, ?union_case, ?union_void, ?union_default, ?typedef, ?item⟩
  -- leaves: `walk` does not look at the children
  case ident | ident_value | basic_type => exact fun _ => ⟨_, rfl⟩
  case ident_const => exact fun _ _ _ => ⟨_, rfl⟩
  case array_variable => exact fun _ _ _ => Or.inl ⟨_, rfl⟩
  case array_fixed => exact fun _ _ _ => Or.inr ⟨_, rfl⟩
  case union_void => exact fun _ _ _ => rfl
  -- silent choices between rules of the rule's own type
  case array | array_length | union_case_value => exact fun _ h => h
  case constant =>
    -- children [name, value]
    refine fun _ _ h => h.bind fun ns hns => ?_
    obtain ⟨_, _, rfl, ⟨a, rfl⟩, _, rfl, b, rfl⟩ := app_one hns
    exact Or.inl ⟨a, b, rfl⟩
  case enum_variant =>
    -- children [name, value]
    refine fun _ _ h => h.bind fun ns hns => ?_
    obtain ⟨_, _, rfl, ⟨a, rfl⟩, _, rfl, b, rfl⟩ := app_one hns
    exact ⟨a, b, rfl⟩
  case option =>
    -- child [name]
    refine fun _ _ h => h.bind fun ns hns => ?_
    obtain ⟨_, rfl, t, rfl⟩ := hns
    exact ⟨t, rfl⟩
  case struct_data_field | union_data_field => exact fun _ _ h => h.bind fun l hl => ⟨l, rfl, hl⟩
  case data_field =>
    -- silent: [type] ++ ([option] | [name]) ++ ([] | [array]) is `fieldNodes`
    intro ns hns
    obtain ⟨_, l2, rfl, ⟨t, rfl⟩, hl2⟩ := app_one hns
    obtain ⟨l2a, l2b, rfl, ho, ha⟩ := hl2
    obtain ⟨o, rfl, ho'⟩ : ∃ o, l2a = [o] ∧ ((∃ t2, o = .type t2) ∨ IsOpt o) := by
      rcases ho with ⟨o, rfl, h⟩ | ⟨o, rfl, h⟩
      · exact ⟨o, rfl, Or.inr h⟩
      · exact ⟨o, rfl, Or.inl h⟩
    rcases ha with rfl | ⟨arr, rfl, harr⟩
    · exact ⟨t, o, ho', Or.inl rfl⟩
    · exact ⟨t, o, ho', Or.inr ⟨arr, harr, rfl⟩⟩
  case union_case =>
    -- children [label] ++ ([] | [union_data_field] | [union_void]): `caseNodes`
    refine fun _ _ h => h.bind fun ns hns => ?_
    obtain ⟨_, b, rfl, ⟨t, rfl⟩, hb⟩ := app_one hns
    refine Or.inl ⟨_, rfl, t, ?_⟩
    rcases hb with rfl | ⟨_, rfl, l, rfl, hl⟩ | rfl
    · exact Or.inl rfl
    · exact Or.inr ⟨_, Or.inl ⟨l, hl, rfl⟩, rfl⟩
    · exact Or.inr ⟨_, Or.inr rfl, rfl⟩
  case union_default =>
    -- children [union_data_field] | [union_void]: `bodyNodes`
    refine fun _ _ h => h.bind fun b hb => ?_
    rcases hb with ⟨_, rfl, l, rfl, hl⟩ | rfl
    · exact Or.inr ⟨_, rfl, Or.inl ⟨l, hl, rfl⟩⟩
    · exact Or.inr ⟨_, rfl, Or.inr rfl⟩
  case typedef =>
    -- children [target, alias] ++ ([] | [array]): `Typedef::new` answers on all three shapes
    refine fun _ _ h => h.bind fun ns hns => ?_
    obtain ⟨_, r1, rfl, ⟨t, rfl⟩, h1⟩ := app_one hns
    obtain ⟨_, r2, rfl, ⟨al, rfl⟩, ha⟩ := app_one h1
    refine Good.bind (P := fun _ => True) ?_ fun td _ => Or.inr (Or.inl ⟨td, rfl⟩)
    rcases ha with rfl | ⟨_, rfl, ⟨sz, rfl⟩ | ⟨sz, rfl⟩⟩
    · trivial
    · -- `opaque t<…>`: an alias or a bounded array, by the bound
      simp only [Typedef.new]
      split
      · split <;> trivial
      · trivial
    · trivial
  case struct_type =>
    -- children [name] ++ struct_data_fields; `StructField::new` on each (K6.b, K6.f)
    refine fun _ _ h => h.bind fun ns hns => ?_
    obtain ⟨_, rest, rfl, ⟨nm, rfl⟩, hrest⟩ := app_one hns
    refine Good.bind (P := fun _ => True) ?_ fun s _ => Or.inr (Or.inr (Or.inr (Or.inl ⟨s, rfl⟩)))
    refine Good.bind (Good.mapOut StructField.new _ ?_ rest hrest) fun _ _ => trivial
    rintro _ ⟨l, rfl, hl⟩
    exact structField_good l hl
  case enum_type =>
    -- children [name] ++ ([variant] ++ variants) ++ variants (`variant+ ("," variant)*`); `Variant::new` on each (K6.c)
    refine fun _ _ h => h.bind fun ns hns => ?_
    obtain ⟨_, _, rfl, ⟨nm, rfl⟩, _, r3, rfl, hplus, h3⟩ := app_one hns
    obtain ⟨v, r2, rfl, hv, h2⟩ := app_one hplus
    refine Good.bind (P := fun _ => True) ?_ fun e _ => Or.inr (Or.inr (Or.inl ⟨e, rfl⟩))
    refine Good.bind (Good.mapOut Variant.new (fun n => ∃ a b, n = .enumVariant [.type a, .type b]) ?_ ((v :: r2) ++ r3) ?_)
      fun _ _ => trivial
    · rintro _ ⟨a, b, rfl⟩
      exact variant_good a b
    · intro n hn
      rcases List.mem_append.mp hn with hn | hn
      · rcases List.mem_cons.mp hn with rfl | hn
        · exact hv
        · exact h2 n hn
      · exact h3 n hn
  case union =>
    -- children [name, discriminant type, discriminant name] ++ arms; the loop of `Union::new` over the arms (K6.a)
    refine fun _ _ h => h.bind fun ns hns => ?_
    obtain ⟨_, r1, rfl, ⟨nm, rfl⟩, h1⟩ := app_one hns
    obtain ⟨_, r2, rfl, ⟨ty, rfl⟩, h2⟩ := app_one h1
    obtain ⟨_, arms, rfl, ⟨vr, rfl⟩, harms⟩ := app_one h2
    refine Good.bind (P := fun _ => True) ?_ fun u _ => Or.inr (Or.inr (Or.inr (Or.inr ⟨u, rfl⟩)))
    exact Good.bind (unionLoop_good arms {} harms) fun _ _ => trivial
  case item =>
    -- children declarations ++ [eof]
    refine fun _ _ h => h.bind fun ns hns => ?_
    obtain ⟨ds, _, rfl, hds, rfl⟩ := hns
    refine ⟨_, rfl, fun m hm => ?_⟩
    rcases List.mem_append.mp hm with hm | hm
    · exact Or.inl (hds m hm)
    · exact Or.inr (List.mem_singleton.mp hm)

end Fx
