/-
  Fx.Lemmas.Fits — the three emitters agree, for every supported specification: a declaration's decoder produces the type
  declared for it (`implFits`); every declared type resolves and carries its parameter iff used (`declFits`).
-/
import Fx.Lemmas.EmitPlans
import Fx.Lemmas.PayloadTy
namespace Fx

theorem emitTypeDecl_name {a : Ast} {ty : AstType} {d : TypeDecl} (h : emitTypeDecl a ty = some d) :
    declName d = ty.rustName ∧ isTypeDecl d = true := by
  cases ty with
  | struct s => simp only [emitTypeDecl] at h; cases h; exact ⟨rfl, rfl⟩
  | union u => simp only [emitTypeDecl] at h; cases h; exact ⟨rfl, rfl⟩
  | enum e => simp only [emitTypeDecl] at h; cases h; exact ⟨rfl, rfl⟩
  | typedef td =>
    simp only [emitTypeDecl] at h
    split at h
    · cases h
    · split at h
      · cases h; exact ⟨rfl, rfl⟩
      · split at h <;> (cases h; exact ⟨rfl, rfl⟩)

theorem find_decl_of_types {a : Ast} {m : Module} (hs : Supported a = true) (hg : generateModule a = .ok m)
    {n : String} {ty : AstType} {d : TypeDecl} (hb : bget n a.types = some ty) (hd : emitTypeDecl a ty = some d) :
    findDecl m n = some d := by
  simp only [findDecl, (generateModule_ok hg).1, emitTypes]
  -- the constants in front are no type declarations
  rw [List.find?_append, List.find?_eq_none.mpr, Option.none_or]
  · exact find?_emitted (emitTypeDecl a) _ n a.types
      (fun kv hkv y hy => by
        rw [(emitTypeDecl_name hy).1, (emitTypeDecl_name hy).2, ((sfacts_of_supported hs).entry hkv).2.1, Bool.true_and]) hb hd
  · intro d' hd'
    obtain ⟨⟨k, c⟩, _, h⟩ := List.mem_filterMap.mp hd'
    cases c <;> simp only [Option.some.injEq, reduceCtorEq] at h
    subst h
    simp [isTypeDecl]

structure FitsCtx (a : Ast) (m : Module) : Prop extends SFacts a where
  decl : ∀ n, declared a n = true → ∃ d, findDecl m n = some d ∧ declGeneric d = a.isGeneric n

theorem namedTy_declared {a : Ast} {m : Module} (C : FitsCtx a m) {n : String} (h : declared a n = true) :
    namedTy m n = if a.isGeneric n then .pathT n else .path n := by
  obtain ⟨d, hd, hg⟩ := C.decl n h
  simp only [namedTy, hd, hg]

theorem basic_fits {a : Ast} {m : Module} (C : FitsCtx a m) {t : BasicType} (hd : basicDeclared a t = true) :
    (decodeBasicAlias t).ty m = elemTy a t := by
  cases t with
  | ident c => simp only [decodeBasicAlias, BasicDec.ty, namedTy_declared C hd, elemTy, C.safe c hd]
  | _ => rfl

/-- the decode expression of a declarator has the type `print_types` declares for it -/
theorem FieldPlan.fits {a : Ast} {m : Module} (C : FitsCtx a m) {at_ : ArrayType} {fd : FieldDec} (h : FieldPlan a at_ fd) :
    fd.fits a m (payloadTy a at_) = true := by
  cases h with
  | one hd => simp only [FieldDec.fits, payloadTy_none, basic_fits C hd, tyEq_refl]
  -- `[_; N]`: the resolved length is compared, and the element type unless the length is 0
  | @fixedArr0 t sz ho hs hd hn =>
    simp only [payloadTy_fixed a sz ho hs, FieldDec.fits, arrLen, hn, beq_self_eq_true, Bool.true_or, Bool.and_self]
  | @fixedArr t sz n ho hs hd hn h0 =>
    simp only [payloadTy_fixed a sz ho hs, FieldDec.fits, arrLen, hn, basic_fits C hd, tyEq_refl, beq_self_eq_true,
      Bool.or_true, Bool.and_self]
  -- `Vec<name>` / `Vec<name<T>>`: the name has a declaration, with the parameter iff it is generic
  | @varArr c _ lim hd hl =>
    obtain ⟨d, hdd, hg⟩ := C.decl c hd
    rw [payloadTy_variable_ident]
    simp only [FieldDec.fits, elemTy, C.safe c hd, hdd, hg]
    cases a.isGeneric c <;> simp [tyEq]
  -- `T` and `String` are their own containers
  | _ => rfl

/-- the field type `print_types` declares (the lambda of `emitTypeDecl`'s struct clause) -/
def fieldDeclTy (a : Ast) (f : StructField) : TyExpr :=
  if f.isOptional then .optBox (payloadTy a f.fieldValue) else payloadTy a f.fieldValue

theorem emitTypeDecl_struct (a : Ast) (s : Struct) : emitTypeDecl a (.struct s) =
    some (.struct s.name (a.isGeneric s.name) (s.fields.map fun f => (f.fieldName, fieldDeclTy a f))) := rfl

theorem emitTypeDecl_union (a : Ast) (u : Union) :
    emitTypeDecl a (.union u) = some (.union u.name (a.isGeneric u.name) (unionVariants a u)) := rfl

def structFieldFits (a : Ast) (m : Module) (f : StructFieldDec) (dn : String) (dt : TyExpr) : Bool :=
  match f with
  | .plain n fd => n == dn && fd.fits a m dt
  | .optional n ty => n == dn && tyEq (.optBox (namedTy m ty)) dt && (findDecl m ty).isSome

theorem emitStructField_fits {a : Ast} {m : Module} (C : FitsCtx a m) {f : StructField} {sfd : StructFieldDec}
    (h : StructFieldPlan a f sfd) : structFieldFits a m sfd f.fieldName (fieldDeclTy a f) = true := by
  cases h with
  | @optional n hopt hfv hd =>
    obtain ⟨d, hdd, hg⟩ := C.decl n hd
    simp only [structFieldFits, fieldDeclTy, hopt, if_true, hfv, namedTy_declared C hd, payloadTy_none, elemTy, C.safe n hd, hdd]
    cases a.isGeneric n <;> simp [tyEq]
  | plain hopt _ hp =>
    simp only [structFieldFits, fieldDeclTy, hopt, Bool.false_eq_true, if_false, beq_self_eq_true, Bool.true_and]
    exact hp.fits C

theorem emitStructFields_fits {a : Ast} {m : Module} (C : FitsCtx a m) {fields : List StructField} {fs : List StructFieldDec}
    (h : StructFieldsPlan a fields fs) :
    fs.length = fields.length ∧
    ((fs.zip (fields.map fun f => (f.fieldName, fieldDeclTy a f))).all fun (f, (dn, dt)) => structFieldFits a m f dn dt) = true := by
  induction h with
  | nil => exact ⟨rfl, rfl⟩
  | cons h _ ih =>
    refine ⟨congrArg (· + 1) ih.1, ?_⟩
    simp only [List.map_cons, List.zip_cons_cons, List.all_cons, emitStructField_fits C h, Bool.true_and]
    exact ih.2

theorem label_patOk_int {a : Ast} (F : SFacts a) {swTy : BasicType} {p : Prim} {l : String} {v : Nat}
    (hv : labelValue a l = some v) (hfit : intFits p v = true) (h1 : l ≠ "TRUE") (h2 : l ≠ "FALSE") (hsn : safeName l = l)
    (hen : isEnumConst a l = true → (switchCastType a swTy).asSafeString =
      (match p with | .u32 => "u32" | .i32 => "i32" | .u64 => "u64" | .i64 => "i64" | _ => "")) :
    patOk a (.int p) (matcherOf a swTy l) = true := by
  rcases matcherOf_int F swTy hv h1 h2 hsn with ⟨t, hm, hp⟩ | ⟨e, hm, hec, hd⟩ <;> rw [hm]
  · simp only [patOk, litOk, parseIntLit_eq, hp, hfit]
  · simp only [patOk, hd, Option.isSome_some, Bool.true_and, hen hec]
    cases p <;> exact beq_self_eq_true _

theorem label_patOk_bool {a : Ast} (F : SFacts a) {swTy : BasicType} {l : String} (hl : l = "TRUE" ∨ l = "FALSE") :
    patOk a .bool (matcherOf a swTy l) = true := by
  rcases hl with rfl | rfl
  · simp only [matcherOf, Ast.getConst, F.noBoolConst.1, safeName_TRUE]
    rfl
  · simp only [matcherOf, Ast.getConst, F.noBoolConst.2, safeName_FALSE]
    rfl

theorem label_patOk_enum {a : Ast} (F : SFacts a) {nm : String} {e : Enum} (hb : bget nm a.types = some (.enum e))
    (hsafe : (BasicType.ident nm).asSafeString = nm) {l : String} (hl : e.variants.any (·.name == l) = true) :
    patOk a (.enum nm) (matcherOf a (.ident nm) l) = true := by
  have hc := F.label_const hb hl
  obtain ⟨i, _, hd, _⟩ := enum_const_value F hc
  have hcast : switchCastType a (.ident nm) = .ident nm := by
    simp [switchCastType, Ast.typedefTarget, Ast.getType, BasicType.asStr, hb]
  simp only [matcherOf, Ast.getConst, hc, patOk, hd, Option.isSome_some, hcast, hsafe, beq_self_eq_true, Bool.and_self]

theorem union_patterns {a : Ast} {m : Module} (C : FitsCtx a m) (u : Union) (hu : unionOk a u = true)
    (hlt : labelsTypedU a u = true) (disc : BasicDec) (hd : decodeBasic a u.switch.varType .useTarget = .ok disc) :
    scrutTyOf a disc ≠ .other ∧ ∀ l ∈ allLabels u, patOk a (scrutTyOf a disc) (matcherOf a u.switch.varType l) = true := by
  have F := C.toSFacts
  obtain ⟨hk, _, _, hlab, _⟩ := unionOk_facts hu
  rcases disc_cases hk hd with ⟨hkind, rfl⟩ | ⟨hkind, rfl⟩ | ⟨hkind, rfl⟩ | ⟨n, e, hkind, rfl, hsw, hg⟩ <;> rw [hkind] at hlab
  · refine ⟨by simp [scrutTyOf], fun l hl => ?_⟩
    obtain ⟨v, hv, h1, h2, hsn⟩ := labelKindOk_u32 (hlab l hl)
    obtain ⟨h32, hen⟩ := labelsTypedU_u32 hkind hlt hl hv
    exact label_patOk_int F hv (p := .u32) (by simp [intFits, h32]) h1 h2 hsn hen
  · refine ⟨by simp [scrutTyOf], fun l hl => ?_⟩
    obtain ⟨v, hv, h31, h1, h2, hsn⟩ := labelKindOk_i32 (hlab l hl)
    exact label_patOk_int F hv (p := .i32) (by simp [intFits, h31]) h1 h2 hsn (labelsTypedU_i32 hkind hlt hl)
  · exact ⟨by simp [scrutTyOf], fun l hl => label_patOk_bool F (labelKindOk_bool (hlab l hl))⟩
  · have hst : scrutTyOf a (.tryFrom e.name) = .enum n := by simp [scrutTyOf, enumOf, Ast.getType, F.enum_name hg, hg]
    rw [hst, hsw]
    exact ⟨by simp, fun l hl => label_patOk_enum F hg (F.safe n (declared_iff.mpr ⟨_, hg⟩)) (labelKindOk_enum (hlab l hl))⟩

theorem findVariant_of_mem {vs : List (String × Option TyExpr)} (hnd : (vs.map fun x => nonDigitName x.1).Nodup)
    {l : String} {x : Option TyExpr} (h : (l, x) ∈ vs) : findVariant vs l = some x := by
  rw [findVariant, (List.find?_key (fun y : String × Option TyExpr => nonDigitName y.1) hnd).mpr ⟨h, rfl⟩]
  rfl

/-- a union arm is declared with the type a struct field of the same declarator would have -/
theorem armTy_eq {a : Ast} {m : Module} (C : FitsCtx a m) {fv : ArrayType} (h : armTypeOk a fv = true) : armTy a fv = payloadTy a fv := by
  obtain ⟨t, rfl, _, hd⟩ := armTypeOk_iff.mp h
  cases t with
  | ident c =>
    simp only [armTy, ArrayType.unwrapArray, payloadTy, C.safe c hd]
    split <;> rfl
  | _ => rfl

theorem arm_fits {a : Ast} {m : Module} (C : FitsCtx a m) {fv : ArrayType} (hf : armTypeOk a fv = true) :
    (armDec fv).fits a m (armTy a fv) = true := by
  rw [armTy_eq C hf]
  obtain ⟨t, rfl, _, hd⟩ := armTypeOk_iff.mp hf
  exact (FieldPlan.one hd).fits C

/-- what `implFits` asks of one arm -/
def armFits (a : Ast) (m : Module) (st : ScrutTy) (vs : List (String × Option TyExpr)) (arm : Arm) : Bool :=
  patOk a st arm.pat &&
    (match findVariant vs arm.variant, arm.payload with
     | some (some t), some fd => fd.fits a m t
     | some none, none => true
     | _, _ => false)

theorem emitUnion_fits {a : Ast} {m : Module} (C : FitsCtx a m) (u : Union) (hu : unionOk a u = true)
    (hlt : labelsTypedU a u = true) (hvd : variantsDistinctU a u = true) {disc : BasicDec}
    (hdisc : decodeBasic a u.switch.varType .useTarget = .ok disc) :
    scrutTyOf a disc ≠ .other ∧
    (unionPlan a u disc).arms.all (armFits a m (scrutTyOf a disc) (unionVariants a u)) = true ∧
    (match unionTail u with
     | .defaultData fd => (match findVariant (unionVariants a u) "default" with | some (some t) => fd.fits a m t | _ => false)
     | _ => true) = true := by
  have hnd := variantsDistinctU_iff.mp hvd
  obtain ⟨_, hc, hd', _, _⟩ := unionOk_facts hu
  have hd : ∀ d, u.default = some d → armTypeOk a d.fieldValue = true := fun d h => (hd' d h).1
  obtain ⟨hst, hpat⟩ := union_patterns C u hu hlt disc hdisc
  refine ⟨hst, ?_, ?_⟩
  · simp only [unionPlan, List.all_append, Bool.and_eq_true, List.all_eq_true]
    refine ⟨fun arm h => ?_, fun arm h => ?_⟩
    · obtain ⟨c, hcm, l, hl, rfl⟩ := mem_dataArms.mp h
      have hmem : (l, some (armTy a c.fieldValue)) ∈ unionVariants a u :=
        List.mem_append_left _ (List.mem_append_left _ (mem_perLabel.mpr ⟨c, hcm, l, hl, rfl⟩))
      simp only [armFits, hpat l (allLabels_mem_case hcm hl), findVariant_of_mem hnd hmem, Bool.true_and]
      exact arm_fits C (hc c hcm)
    · obtain ⟨l, hl, rfl⟩ := List.mem_map.mp h
      have hmem : (l, (none : Option TyExpr)) ∈ unionVariants a u := by
        simp only [unionVariants, List.mem_append, List.mem_map]
        exact Or.inl (Or.inr ⟨l, hl, rfl⟩)
      simp only [emitVoid]
      split
      · simp only [armFits, patOk, findVariant_of_mem hnd hmem, Bool.true_and]
      · rename_i hne
        have hne' : l ≠ "default" := by simpa using hne
        simp only [armFits, hpat l (allLabels_mem_void hl hne'), findVariant_of_mem hnd hmem, Bool.true_and]
  · simp only [unionTail]
    cases hdf : u.default with
    | none => cases u.voidCases.contains "default" <;> rfl
    | some d =>
      have hmem : ("default", some (armTy a d.fieldValue)) ∈ unionVariants a u := by simp [unionVariants, hdf]
      simp only [findVariant_of_mem hnd hmem]
      exact arm_fits C (hd d hdf)

/-- the newtype of a supported typedef wraps the type of the declarator it abbreviates -/
theorem emitTypeDecl_typedef {a : Ast} {td : Typedef} (h : typedefOk a td = true) :
    ∃ sp, emitTypeDecl a (.typedef td) =
      some (.typedef td.alias.unwrapArray.asStr (td.target.isOpaque || a.targetGeneric td.target) sp (payloadTy a (wrapAlias td))) := by
  obtain ⟨⟨al, hal, hne'⟩, hstr, _, _⟩ := typedefOk_facts h
  obtain ⟨target, alias⟩ := td
  have hne : (target == alias.unwrapArray) = false := by
    rw [hal]
    cases target with
    | ident n => exact (beq_false_of_ne (Ne.symm hne') : (n == al) = false)
    | _ => rfl
  simp only [emitTypeDecl, hne, Bool.false_eq_true, if_false]
  cases target with
  | string => exact absurd rfl hstr
  | «opaque» => exact ⟨false, by cases alias <;> rfl⟩
  | ident n =>
    by_cases hg : a.isGeneric n = true
    · exact ⟨true, by cases alias <;> simp [wrapAlias, payloadTy, ArrayType.unwrapArray, Ast.targetGeneric, BasicType.isOpaque, hg]⟩
    · exact ⟨false, by cases alias <;> simp [wrapAlias, payloadTy, ArrayType.unwrapArray, Ast.targetGeneric, BasicType.isOpaque, hg]⟩
  | _ => exact ⟨false, by cases alias <;> rfl⟩

/-- `paramsOk` is needed for `decl`: the parameter list of an emitted enum / typedef declaration against the generic index -/
theorem fitsCtx_of_supported {a : Ast} {m : Module} (hs : Supported a = true) (hp : paramsOk a = true)
    (hg : generateModule a = .ok m) : FitsCtx a m := by
  refine ⟨sfacts_of_supported hs, fun n hd => ?_⟩
  obtain ⟨ty, hb⟩ := declared_iff.mp hd
  have hmem := mem_of_bget hb
  obtain ⟨_, (hname : n = ty.rustName), hok⟩ := (sfacts_of_supported hs).entry hmem
  have hpar := (List.all_eq_true.mp hp) (n, ty) hmem
  cases ty with
  | struct s => exact ⟨_, find_decl_of_types hs hg hb rfl, by rw [hname]; rfl⟩
  | union u => exact ⟨_, find_decl_of_types hs hg hb rfl, by rw [hname]; rfl⟩
  | enum e => exact ⟨_, find_decl_of_types hs hg hb rfl, by simpa [declGeneric] using hpar.symm⟩
  | typedef td =>
    obtain ⟨sp, hdcl⟩ := emitTypeDecl_typedef (a := a) hok
    exact ⟨_, find_decl_of_types hs hg hb hdcl, (beq_iff_eq.mp hpar).symm⟩

theorem implFits_eq {a : Ast} {m : Module} {i : Impl} {d : TypeDecl} (hd : findDecl m i.name = some d) :
    implFits a m i =
      (declGeneric d == i.generic && i.body.okFor m.plans &&
        match i.body, d with
        | .struct fs, .struct _ _ dfs =>
          fs.length == dfs.length && (fs.zip dfs).all fun (f, (dn, dt)) => structFieldFits a m f dn dt
        | .union u, .union _ _ vs =>
          scrutTyOf a u.disc != .other && u.arms.all (armFits a m (scrutTyOf a u.disc) vs) &&
            (match u.tail with
             | .defaultData fd => (match findVariant vs "default" with | some (some t) => fd.fits a m t | _ => false)
             | _ => true)
        | .enum arms, .enum _ vs =>
          arms.all fun (p, mem) =>
            (match p with | .numeric n => 0 ≤ n && n < 2^31 | .str _ => false) && (vs.any fun x => x.1 == mem)
        | .typedef fd, .typedef _ _ _ inner => fd.fits a m inner
        | _, _ => false) := by
  unfold implFits
  split
  · rename_i h
    cases hd.symm.trans h
  · rename_i d' h
    cases hd.symm.trans h
    cases i.body <;> cases d <;> rfl

theorem decoders_fit {a : Ast} {m : Module} (hs : Supported a = true) (hp : paramsOk a = true) (hl : labelsTyped a = true)
    (hv : variantsDistinct a = true) (hg : generateModule a = .ok m) : m.fromRefMut.all (implFits a m) = true := by
  have C := fitsCtx_of_supported hs hp hg
  have hplans := (supported_plans hs hg).1
  rw [List.all_eq_true]
  intro i hi
  obtain ⟨ty, hb, hname, hok, he⟩ := impl_of_mem hs hg hi
  have hkv : (i.name, ty) ∈ a.types := mem_of_bget hb
  have hbody : i.body.okFor m.plans = true := (List.all_eq_true.mp hplans) i hi
  have hgen : i.generic = a.isGeneric i.name := by rw [emitImpl_generic he, hname]
  obtain ⟨d0, hd0, hg0⟩ := C.decl i.name (declared_iff.mpr ⟨ty, hb⟩)
  rw [implFits_eq hd0]
  simp only [hg0, hgen, beq_self_eq_true, hbody, Bool.true_and]
  cases ty with
  | struct s =>
    cases (find_decl_of_types hs hg hb (emitTypeDecl_struct a s)).symm.trans hd0
    obtain ⟨fs, hfs, hb'⟩ := emitImpl_struct_ok C.safe hok he
    obtain ⟨hlen, hz⟩ := emitStructFields_fits C hfs
    simp only [hb', List.length_map, hlen, beq_self_eq_true, Bool.true_and]
    exact hz
  | union u =>
    cases (find_decl_of_types hs hg hb (emitTypeDecl_union a u)).symm.trans hd0
    obtain ⟨disc, hdisc, hb'⟩ := emitImpl_union_ok hok he
    have hlu : labelsTypedU a u = true := (List.all_eq_true.mp hl) _ hkv
    have hvu : variantsDistinctU a u = true := (List.all_eq_true.mp hv) _ hkv
    obtain ⟨hst, harms, htail⟩ := emitUnion_fits C u hok hlu hvu hdisc
    simp only [hb', Bool.and_eq_true, bne_iff_ne, ne_eq]
    exact ⟨⟨hst, harms⟩, htail⟩
  | enum e =>
    cases (find_decl_of_types hs hg hb rfl).symm.trans hd0
    cases he
    simp only [List.all_map, List.all_eq_true, Function.comp]
    intro v hvm
    obtain ⟨n, hval, h0, h31⟩ := (enumOk_facts hok).2.2.1 v hvm
    simp only [Bool.and_eq_true]
    refine ⟨?_, by simp only [List.any_map, List.any_eq_true]; exact ⟨v, hvm, by simp⟩⟩
    simp only [hval, Bool.and_eq_true, decide_eq_true_eq]
    exact ⟨h0, h31⟩
  | typedef td =>
    obtain ⟨sp, hdcl⟩ := emitTypeDecl_typedef (a := a) hok
    cases (find_decl_of_types hs hg hb hdcl).symm.trans hd0
    rw [hname] at hb
    obtain ⟨fd, hp, hb'⟩ := emitImpl_typedef_ok C.safe hok hb he
    simp only [hb']
    exact hp.fits C

theorem elemTy_wellFormed {a : Ast} {m : Module} (C : FitsCtx a m) {t : BasicType} (hd : basicDeclared a t = true) :
    (elemTy a t).wellFormed m = true := by
  cases t with
  | ident c =>
    obtain ⟨d, hdd, hg⟩ := C.decl c hd
    simp only [elemTy, C.safe c hd]
    cases hgen : a.isGeneric c <;> simp [TyExpr.wellFormed, hdd, hg, hgen]
  | «opaque» | string => rfl
  | _ => simp [elemTy, TyExpr.wellFormed, primNames, BasicType.asSafeString, BasicType.asStr]

theorem payloadTy_wellFormed {a : Ast} {m : Module} (C : FitsCtx a m) {at_ : ArrayType} (h : elemOk a at_ = true) :
    (payloadTy a at_).wellFormed m = true := by
  rw [payloadTy_elem (TyExpr.wellFormed m) (fun _ _ => rfl) (fun _ => rfl)]
  exact elemTy_wellFormed C (basicDeclared_of_elemOk h)

/-- what `declOk` asks of the *types* written in one declaration -/
def declTypesResolve (m : Module) : TypeDecl → Bool
  | .struct _ _ fs => fs.all fun f => f.2.wellFormed m
  | .union _ _ vs => vs.all fun v => match v.2 with | some t => t.wellFormed m | none => true
  | .typedef _ _ _ inner => inner.wellFormed m
  | _ => true

theorem mem_emitTypes {a : Ast} {d : TypeDecl} (h : d ∈ emitTypes a) :
    (∃ k s, d = .const k s) ∨ ∃ kv ∈ a.types, emitTypeDecl a kv.2 = some d := by
  simp only [emitTypes, List.mem_append, List.mem_filterMap] at h
  rcases h with ⟨⟨k, c⟩, _, hkv⟩ | h
  · cases c <;> simp only [Option.some.injEq, reduceCtorEq] at hkv
    exact Or.inl ⟨_, _, hkv.symm⟩
  · exact Or.inr h

theorem decls_resolve {a : Ast} {m : Module} (hs : Supported a = true) (hp : paramsOk a = true) (hg : generateModule a = .ok m) :
    m.types.all (declTypesResolve m) = true := by
  have C := fitsCtx_of_supported hs hp hg
  rw [(generateModule_ok hg).1, List.all_eq_true]
  intro d hd
  rcases mem_emitTypes hd with ⟨k, s, rfl⟩ | ⟨⟨k, ty⟩, hkvm, hkv⟩
  · rfl
  · have hok : typeOk a ty = true := (C.entry hkvm).2.2
    cases ty with
    | struct s =>
      rw [emitTypeDecl_struct] at hkv
      cases hkv
      simp only [declTypesResolve, List.all_map, List.all_eq_true, Function.comp, fieldDeclTy]
      intro f hf
      have := payloadTy_wellFormed C (elemOk_of_fieldOk (List.all_eq_true.mp (typeOk_struct hok).2 f hf))
      split <;> simpa [TyExpr.wellFormed] using this
    | union u =>
      rw [emitTypeDecl_union] at hkv
      cases hkv
      obtain ⟨_, hcases, hdef, _, _⟩ := unionOk_facts hok
      have harm : ∀ fv, armTypeOk a fv = true → (armTy a fv).wellFormed m = true := fun fv h => by
        rw [armTy_eq C h]
        exact payloadTy_wellFormed C (elemOk_of_armTypeOk h)
      simp only [declTypesResolve, unionVariants, List.all_append, Bool.and_eq_true, List.all_eq_true]
      refine ⟨⟨?_, ?_⟩, ?_⟩
      · intro v hv
        obtain ⟨c, hc, lab, _, rfl⟩ := mem_perLabel.mp hv
        exact harm _ (hcases c hc)
      · intro v hv
        obtain ⟨lab, _, rfl⟩ := List.mem_map.mp hv
        rfl
      · intro v hv
        cases hdd : u.default with
        | none => simp [hdd] at hv
        | some d =>
          simp only [hdd, List.mem_singleton] at hv
          subst hv
          exact harm _ (hdef d hdd).1
    | enum e =>
      cases hkv
      rfl
    | typedef td =>
      obtain ⟨sp, hdcl⟩ := emitTypeDecl_typedef (a := a) hok
      rw [hdcl] at hkv
      cases hkv
      exact payloadTy_wellFormed C (typedefOk_facts hok).2.2.1

theorem declFits_eq (m : Module) (d : TypeDecl) : declFits m d =
    (declTypesResolve m d &&
      match d with
      | .struct _ g fs => (fs.any (·.2.usesT)) == g
      | .union _ g vs => (vs.any fun v => match v.2 with | some t => t.usesT | none => false) == g
      | .typedef _ g _ inner => inner.usesT == g
      | _ => true) := by
  cases d <;> rfl

theorem declarations_fit {a : Ast} {m : Module} (hs : Supported a = true) (hp : paramsOk a = true) (hu : paramsUsed a = true)
    (hg : generateModule a = .ok m) : m.types.all (declFits m) = true := by
  have hres := decls_resolve hs hp hg
  rw [List.all_eq_true] at hres ⊢
  intro d hd
  have hr := hres d hd
  rw [(generateModule_ok hg).1] at hd
  rcases mem_emitTypes hd with ⟨k, s, rfl⟩ | ⟨⟨k, ty⟩, hkvm, hkv⟩
  · rfl
  · have hused := (List.all_eq_true.mp hu) _ hkvm
    obtain ⟨_, (hkey : k = ty.rustName), hok⟩ := (sfacts_of_supported hs).entry hkvm
    cases ty with
    | struct s =>
      rw [emitTypeDecl_struct] at hkv
      cases hkv
      simp only [AstType.rustName] at hkey
      rw [declFits_eq, hr, Bool.true_and, beq_iff_eq, List.any_map, ← hkey]
      exact (beq_iff_eq.mp hused).symm
    | union u =>
      rw [emitTypeDecl_union] at hkv
      cases hkv
      simp only [AstType.rustName] at hkey
      rw [declFits_eq, hr, Bool.true_and, beq_iff_eq, ← hkey]
      exact (beq_iff_eq.mp hused).symm
    | enum e =>
      cases hkv
      rfl
    | typedef td =>
      obtain ⟨sp, hdcl⟩ := emitTypeDecl_typedef (a := a) hok
      rw [hdcl] at hkv
      cases hkv
      rw [declFits_eq, hr, Bool.true_and, beq_iff_eq, payloadTy_usesT, wrapAlias_unwrap]

end Fx
