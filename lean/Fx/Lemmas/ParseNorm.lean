/-
  Fx.Lemmas.ParseNorm — forgetting the layout: `norm` replaces every layout of a concrete syntax tree by nothing (and every
  white-space run inside a `basic_type` token by one blank).  The token tree of a specification and the token tree of its
  normal form are indistinguishable for `walk`.
-/
import Fx.Lemmas.ParseSim
namespace Fx.Parse
open Fx.Peg

/-- the rule is none of the six whose token text or first child `walk` reads -/
def CompRule (r : String) : Prop :=
  r ≠ "ident" ∧ r ≠ "ident_const" ∧ r ≠ "ident_value" ∧ r ≠ "basic_type" ∧ r ≠ "array_variable" ∧ r ≠ "array_fixed"

theorem sim_comp {r : String} {t t' : List Char} {cs cs' : List Pair} (hcs : simL cs cs' = true)
    (hr : CompRule r := by simp [CompRule]) : sim (.mk r t cs) (.mk r t' cs') = true := by
  obtain ⟨h1, h2, h3, h4, h5, h6⟩ := hr
  simp [sim, leafCond, h1, h2, h3, h4, h5, h6, hcs]

theorem simL_comp {r : String} {t t' : List Char} {cs cs' : List Pair} (hcs : simL cs cs' = true)
    (hr : CompRule r := by simp [CompRule]) : simL [.mk r t cs] [.mk r t' cs'] = true := simL_single (sim_comp hcs hr)

theorem simL_arr {r : String} (h : r = "array_variable" ∨ r = "array_fixed") {t t' : List Char} {cs : List Pair} :
    simL [.mk r t cs] [.mk r t' cs] = true := by
  refine simL_single ?_
  rcases h with rfl | rfl <;> simp [sim, leafCond, simL_refl]

def Prim.norm : Prim → Prim
  | .uint _ => .uint [' ']
  | .uhyper _ => .uhyper [' ']
  | p => p

def TyRef.norm : TyRef → TyRef
  | .named n => .named n
  | .prim pr _ => .prim pr.norm [' ']

def Arr.norm : Arr → Arr
  | .var _ none => .var nl none
  | .var _ (some (n, _)) => .var nl (some (n, nl))
  | .fixed _ n _ => .fixed nl n nl

def Field.norm (f : Field) : Field :=
  ⟨f.ty.norm, nl, f.star.map (fun _ => nl), f.name, nl, f.arr.map (fun al => (al.1.norm, nl))⟩

def ConstD.norm (d : ConstD) : ConstD := ⟨nl, d.name, nl, nl, d.val, nl⟩
def TypedefD.norm (d : TypedefD) : TypedefD := ⟨nl, d.f.norm⟩
def VariantD.norm (v : VariantD) : VariantD := ⟨v.name, nl, nl, v.val⟩
def EnumD.norm (d : EnumD) : EnumD :=
  ⟨nl, d.name, nl, nl, d.first.norm, nl, d.more.map (fun m => (nl, m.2.1.norm, nl)), nl⟩
def StructD.norm (d : StructD) : StructD := ⟨nl, d.name, nl, nl, d.fields.map (fun fl => (fl.1.norm, nl)), nl⟩

def Body.norm : Body → Body
  | .void _ => .void nl
  | .field f => .field f.norm

def Arm.norm : Arm → Arm
  | .case _ lab _ _ body => .case nl lab nl nl (body.map Body.norm)
  | .dflt _ _ body => .dflt nl nl body.norm

def UnionD.norm (d : UnionD) : UnionD :=
  ⟨nl, d.name, nl, nl, nl, d.ty.norm, nl, d.var, nl, nl, nl, d.arms.map (fun al => (al.1.norm, nl)), nl⟩

def Decl.norm : Decl → Decl
  | .const d => .const d.norm
  | .typedef d => .typedef d.norm
  | .enum d => .enum d.norm
  | .struct d => .struct d.norm
  | .union d => .union d.norm

/-- **the declarations without any layout**: a label for "the same declarations", not a well-formed specification (`foo bar`
    becomes `foobar`); only its token tree is used -/
def Spec.norm (s : Spec) : Spec := ⟨nl, s.decls.map (fun dl => (dl.1.norm, nl))⟩

theorem Prim.norm_ok (pr : Prim) : pr.norm.ok = true := by cases pr <;> rfl
theorem Prim.norm_canon (pr : Prim) : pr.canon = pr.norm.canon := by cases pr <;> rfl

theorem sim_tyref (t : TyRef) (h : t.ok = true) : simL t.tokens t.norm.tokens = true := by
  cases t with
  | named n => exact simL_refl _
  | prim pr tr =>
    obtain ⟨hpr, htr⟩ := TyRef.prim_ok h
    refine simL_single ?_
    simp only [sim, beq_self_eq_true, Bool.true_and, Bool.and_eq_true]
    refine ⟨?_, rfl⟩
    have := ofStr_prim pr tr [' '] pr.norm hpr htr pr.norm_ok (by decide) pr.norm_canon
    simp only [leafCond]
    rw [if_neg (by decide), if_pos (by decide)]
    exact decide_eq_true this

theorem sim_arr (a : Arr) : simL a.tokens a.norm.tokens = true := by
  cases a with
  | var l1 len =>
    cases len with
    | none => exact simL_arr (.inl rfl)
    | some bl => obtain ⟨n, l2⟩ := bl; exact simL_arr (.inl rfl)
  | fixed l1 n l2 => exact simL_arr (.inr rfl)

theorem sim_field (f : Field) (h : f.ok = true) : simL f.tokens f.norm.tokens = true := by
  refine simL_append _ _ _ _ (sim_tyref f.ty (Field.of_ok h).ty) (simL_append _ _ _ _ ?_ ?_)
  · simp only [Field.nameToks, Field.norm]
    cases f.star with
    | none => exact simL_refl _
    | some ls => exact simL_comp (simL_refl _)
  · simp only [Field.norm]
    cases f.arr with
    | none => rfl
    | some al => exact sim_arr al.1

theorem sim_const (d : ConstD) : simL d.tokens d.norm.tokens = true :=
  simL_comp (simL_refl _)

theorem sim_typedef (d : TypedefD) (h : d.ok = true) : simL d.tokens d.norm.tokens = true :=
  simL_comp (sim_field d.f (TypedefD.of_ok h).f)

theorem sim_variant (v : VariantD) : simL v.tokens v.norm.tokens = true :=
  simL_comp (simL_refl _)

theorem sim_enum (d : EnumD) : simL d.tokens d.norm.tokens = true := by
  refine simL_comp ?_
  refine simL_append [_] [_] _ _ (simL_refl _) (simL_append _ _ _ _ (sim_variant d.first) ?_)
  exact simL_elemToks d.more moreElem (fun m => (nl, m.2.1.norm, nl)) (fun m _ => sim_variant m.2.1)

theorem sim_struct (d : StructD) (h : d.ok = true) : simL d.tokens d.norm.tokens = true := by
  refine simL_comp ?_
  refine simL_append [_] [_] _ _ (simL_refl _) ?_
  refine simL_elemToks d.fields (fieldElem "struct_data_field") (fun fl => (fl.1.norm, nl)) (fun fl hfl => ?_)
  exact simL_comp (sim_field fl.1 ((StructD.of_ok h).fields fl hfl).1)

theorem sim_body (b : Body) (h : b.ok = true) : simL b.tokens b.norm.tokens = true := by
  cases b with
  | void l => exact simL_comp rfl
  | field f => exact simL_comp (sim_field f h)

theorem sim_arm (a : Arm) (h : a.ok = true) : simL a.tokens a.norm.tokens = true := by
  cases a with
  | case la lab lb lc body =>
    obtain ⟨_, _, _, _, hb⟩ := Arm.case_ok h
    refine simL_comp (simL_append _ _ _ _ (simL_refl _) ?_)
    cases body with
    | none => rfl
    | some b => exact sim_body b (hb b rfl)
  | dflt la lb body =>
    obtain ⟨_, _, hb⟩ := Arm.dflt_ok h
    exact simL_comp (sim_body body hb)

theorem sim_union (d : UnionD) (h : d.ok = true) : simL d.tokens d.norm.tokens = true := by
  have ok := UnionD.of_ok h
  refine simL_comp ?_
  refine simL_append [_] [_] _ _ (simL_refl _) (simL_append _ _ _ _ (sim_tyref d.ty ok.ty) (simL_append [_] [_] _ _ (simL_refl _) ?_))
  exact simL_elemToks d.arms armElem (fun al => (al.1.norm, nl)) (fun al hal => sim_arm al.1 (ok.arms al hal).1)

theorem sim_decl (d : Decl) (h : d.ok = true) : simL d.tokens d.norm.tokens = true := by
  cases d with
  | const d => exact sim_const d
  | typedef d => exact sim_typedef d h
  | enum d => exact sim_enum d
  | struct d => exact sim_struct d h
  | union d => exact sim_union d h

theorem spec_sim (s : Spec) (h : s.ok = true) : sim s.root s.norm.root = true := by
  refine sim_comp (simL_append _ _ [_] [_] ?_ (simL_refl _))
  exact simL_elemToks s.decls declElem (fun dl => (dl.1.norm, nl)) (fun dl hdl => sim_decl dl.1 ((Spec.of_ok h).decls dl hdl).1)

/-- two well-formed texts of the same declarations, whatever their layouts, are walked to the same result -/
theorem walk_layout (s s' : Spec) (h : s.ok = true) (h' : s'.ok = true) (hn : s.norm = s'.norm) : walk s.root = walk s'.root := by
  rw [walk_sim _ _ (spec_sim s h), walk_sim _ _ (spec_sim s' h'), hn]

end Fx.Parse
