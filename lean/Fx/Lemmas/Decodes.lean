/-
  Fx.Lemmas.Decodes — `supported_reads`: for every supported specification the decoder of a declared type `Reads` that type;
  its `complete` is C01, its `sound` is `decode_sound` (C05/C06).  One induction on fuel over the five evaluators; each step
  is a case analysis on what the emitters wrote (`FieldPlan`), closed by the lemma of that plan node.
-/
import Fx.Lemmas.Enc
import Fx.Lemmas.Selects
namespace Fx

/-- the induction needs the loop's accumulator and running sum in the statement; the sum must come out as exactly the bytes
    consumed, since `read_variable_array` pads to it afterwards -/
theorem arrLoop_reads {a : Ast} {n : String} {f : Nat} {dec : Cur → Res Val} {ws : Val → Nat}
    (hR : Reads XVal.enc dec (·.fsize < f) (hasTypeNamed a n) (reprNamed a n))
    (hws : ∀ c v c', dec c = .ok v c' → c'.off = c.off + ws v) : ∀ (k sum : Nat) (acc : Vals),
    Reads XVals.enc (fun c => arrLoop dec ws k c sum acc) (·.fsize < f) (fun xs => xs.len == k && allHaveType a (.ident n) xs)
      (fun off xs => (acc.append (reprAll a (.ident n) off xs), sum + xs.enc.length))
  | 0, sum, acc => by
    refine ⟨fun xs hx _ off s l => ?_, fun c r c' h => ?_⟩
    · cases xs with
      | nil => exact .intro l (by simp only [arrLoop, XVals.enc, reprAll, Vals.append_nil, List.nil_append, List.length_nil, Nat.add_zero])
      | cons x xs => simp [XVals.len] at hx
    · cases h
      exact ⟨.nil, by simp [XVals.len, allHaveType], by simp only [reprAll, Vals.append_nil, XVals.enc, List.length_nil, Nat.add_zero], rfl⟩
  | k + 1, sum, acc => by
    have ih := arrLoop_reads hR hws k
    refine ⟨fun xs hx hf off s l => ?_, fun c r c' h => ?_⟩
    · cases xs with
      | nil => simp [XVals.len] at hx
      | cons x xs =>
        simp only [XVals.len, Nat.add_right_cancel_iff, allHaveType, hasTypeBasic_ident, Bool.and_eq_true, beq_iff_eq] at hx
        simp only [XVals.fsize] at hf
        obtain ⟨l1, e1⟩ := hR.complete x hx.2.1 (by omega) off (xs.enc ++ s) l
        -- `ws` of the element is the length of its encoding: the decoder moved by exactly that
        have hw : ws (reprNamed a n off x) = x.enc.length := by
          have := hws _ _ _ e1
          simp only at this
          omega
        obtain ⟨l2, e2⟩ := (ih (sum + x.enc.length) (acc.snoc (reprNamed a n off x))).complete xs
          (by simp only [hx.1, hx.2.2, beq_self_eq_true, Bool.and_self]) (by omega) (off + x.enc.length) s l1
        exact .intro l2 (by simp only [XVals.enc, List.append_assoc, arrLoop, e1, hw, Cur.remaining_mk, List.length_append,
          Nat.not_lt.mpr (Nat.le_add_right _ _), if_false, Cur.advance, List.drop_left, e2, reprAll, reprBasic_ident_eq hx.2.1,
          Vals.snoc_append, Nat.add_assoc])
    · obtain ⟨t, ct, hdec, _, h⟩ := arrLoop_succ_ok h
      obtain ⟨x, hx, rfl, hoff⟩ := hR.sound c t ct hdec
      have hw : ws (reprNamed a n c.off x) = x.enc.length := by
        have := hws _ _ _ hdec
        omega
      obtain ⟨xs, hxs, rfl, ho⟩ := (ih _ _).sound _ _ _ h
      simp only [Bool.and_eq_true, beq_iff_eq] at hxs
      refine ⟨.cons x xs, by simp [XVals.len, allHaveType, hasTypeBasic_ident, hx, hxs.1, hxs.2], ?_, ?_⟩
      · simp only [Cur.stepped, Cur.advance_off, hw, reprAll, reprBasic_ident_eq hx, Vals.snoc_append, XVals.enc, List.length_append,
          Nat.add_assoc]
      · simp only [ho, Cur.stepped, Cur.advance_off, hw, XVals.enc, List.length_append, Nat.add_assoc]

/- The fuel conditions follow the chain Field → Basic → Impl: `evalBasic` spends one unit
   before `evalImpl`, `evalField` two; the list evaluators are charged through `XVals.fsize`. -/
def ImplReads (a : Ast) (P : Plans) (fuel : Nat) : Prop :=
  ∀ n, declared a n = true → Reads XVal.enc (evalImpl a P fuel n) (·.fsize < fuel) (hasTypeNamed a n) (reprNamed a n)

def BasicReads (a : Ast) (P : Plans) (fuel : Nat) : Prop :=
  ∀ t, basicDeclared a t = true →
    Reads XVal.enc (evalBasic a P fuel (decodeBasicAlias t)) (·.fsize + 1 < fuel) (hasTypeBasic a t) (reprBasic a t)

def FieldReads (a : Ast) (P : Plans) (fuel : Nat) : Prop :=
  ∀ at_ fd, FieldPlan a at_ fd → sizesOk a at_ = true →
    Reads XVal.enc (evalField a P fuel fd) (·.fsize + 2 < fuel) (hasType a at_) (repr a at_)

def RepeatReads (a : Ast) (P : Plans) (fuel : Nat) : Prop :=
  ∀ t k, basicDeclared a t = true →
    Reads XVals.enc (evalRepeat a P fuel k (decodeBasicAlias t)) (·.fsize + 1 < fuel) (fun xs => xs.len == k && allHaveType a t xs)
      (reprAll a t)

def FieldsReads (a : Ast) (P : Plans) (fuel : Nat) : Prop :=
  ∀ fields fds, StructFieldsPlan a fields fds →
    Reads XVals.enc (evalFields a P fuel fds) (·.fsize + 1 < fuel) (fieldsHaveType a fields) (reprFields a fields)

theorem reads_fixedArr {a : Ast} {P : Plans} {f : Nat} (ihR : RepeatReads a P f) {t : BasicType} (h1 : t ≠ .opaque) (h2 : t ≠ .string)
    (hd : basicDeclared a t = true) {sz : ArraySize} {n : Nat} (hn : boundValue a sz = some n) {b : BasicDec}
    (hb : n ≠ 0 → b = decodeBasicAlias t) :  -- for an empty array no element decoder is printed: any `b` reads `t[0]`
    Reads XVal.enc (evalField a P (f + 1) (.fixedArr n b)) (·.fsize + 2 < f + 1) (hasType a (.fixed t sz)) (repr a (.fixed t sz)) where
  complete x hx hf off s l := by
    obtain ⟨xs, rfl, rfl, hall⟩ := (fixedHasType_arr h1 h2).mp (hasType_fixed hn ▸ hx)
    simp only [XVal.enc, XVal.fsize, repr] at hf ⊢
    cases xs with
    | nil =>
      -- `evalRepeat` needs one unit of fuel even for no element
      obtain ⟨f', rfl⟩ : ∃ f', f = f' + 1 := ⟨f - 1, by simp only [XVals.fsize] at hf; omega⟩
      exact .intro l (by simp [XVals.len, evalField, evalRepeat, XVals.enc, reprAll])
    | cons v vs =>
      rw [hb (Nat.succ_ne_zero _)]
      simp only [XVals.len, evalField]
      apply DecOk.bind ((ihR t _ hd).complete (.cons v vs) (by simp [XVals.len, hall]) (by omega) off s l)
      exact fun l1 => .intro l1 rfl
  sound c v c' h := by
    have hfin : ∀ xs : XVals, xs.len = n → allHaveType a t xs = true → hasType a (.fixed t sz) (.fixedArr xs) = true :=
      fun xs hl ha => hasType_fixed hn ▸ (fixedHasType_arr h1 h2).mpr ⟨xs, rfl, hl, ha⟩
    by_cases hn0 : n = 0
    · simp only [hn0, evalField] at h
      cases f with
      | zero => simp [evalRepeat] at h
      | succ f' =>
        simp only [evalRepeat, Res.bind_ok] at h
        cases h
        exact ⟨.fixedArr .nil, hfin .nil (by simp [XVals.len, hn0]) (by simp [allHaveType]), by simp [repr, reprAll],
          by simp [XVal.enc, XVals.enc]⟩
    · simp only [hb hn0, evalField] at h
      obtain ⟨vs, c1, h1', h2'⟩ := Res.bind_eq_ok h
      cases h2'
      obtain ⟨xs, hxs, hvs, hoff⟩ := (ihR t n hd).sound c vs c' h1'
      simp only [Bool.and_eq_true, beq_iff_eq] at hxs
      exact ⟨.fixedArr xs, hfin xs hxs.1 hxs.2, by simp [repr, hvs], by simp [XVal.enc, hoff]⟩

theorem reads_varArr {a : Ast} {P : Plans} {f : Nat} (hse : P.SizeExact' = true) {nm : String}
    (ihI : Reads XVal.enc (evalImpl a P f nm) (·.fsize < f) (hasTypeNamed a nm) (reprNamed a nm)) {m : Option ArraySize}
    {lim : Option Nat} (hlim : limitOf a m = some lim) (g : Bool) :
    Reads XVal.enc (evalField a P (f + 1) (.varArr nm g lim)) (·.fsize + 2 < f + 1) (hasType a (.variable (.ident nm) m))
      (repr a (.variable (.ident nm) m)) := by
  have hws : ∀ c v c', evalImpl a P f nm c = .ok v c' → c'.off = c.off + wsVal P v :=
    fun c v c' h => ((eval_consumed a P hse f).impl nm c v c' h).off
  refine ⟨fun x hx hf off s l => ?_, fun c v c' h => ?_⟩
  · obtain ⟨xs, rfl, hw, hall⟩ := varHasType_ident.mp (hasType_variable hlim ▸ hx)
    obtain ⟨hl, hm⟩ := withinLimit_iff.mp hw
    simp only [XVal.fsize] at hf
    obtain ⟨l2, e2⟩ := (arrLoop_reads ihI hws xs.len 0 .nil).complete xs (by simp only [hall, beq_self_eq_true, Bool.and_self])
      (by omega) (off + 4) s (l ++ [.vec (min xs.len (xs.enc.length + s.length))])
    have hp0 : padLen xs.enc.length = 0 := padLen_of_mod _ (XVals.enc_len_mod4 xs)
    exact .intro l2 (by simp only [evalField, XVal.enc, List.append_assoc, readVariableArray, readU32_be32 _ hl, Res.bind_ok, hm,
      Bool.false_eq_true, if_false, Cur.addLog, Cur.remaining_mk, e2, hp0, Nat.not_lt_zero, advanceP, Cur.advance_zero,
      Vals.nil_append, List.length_append, be32_length, repr, Nat.add_assoc, Nat.zero_add])
  · obtain ⟨k, c1, out, sum, c3, h1, hov, h3, rfl, _, rfl⟩ := readVariableArray_ok h
    obtain ⟨rfl, _, hk, _⟩ := readU32_ok h1
    obtain ⟨xs, hxs, hr, ho3⟩ := (arrLoop_reads ihI hws _ 0 .nil).sound _ _ c3 h3
    simp only [Bool.and_eq_true, beq_iff_eq] at hxs
    obtain ⟨rfl, hall⟩ := hxs
    simp only [Vals.nil_append, Nat.zero_add, Prod.mk.injEq] at hr
    obtain ⟨rfl, rfl⟩ := hr
    refine ⟨.varArr xs, hasType_variable hlim ▸ varHasType_ident.mpr ⟨xs, rfl, withinLimit_iff.mpr ⟨hk, hov⟩, hall⟩,
      by rw [repr]; rfl, ?_⟩
    -- the elements' encodings fill whole words, so no padding is skipped
    simp only [padLen_of_mod _ (XVals.enc_len_mod4 xs), Cur.advance_zero, XVal.enc, List.length_append, be32_length, ho3, Cur.addLog,
      Cur.advance_off]
    omega

theorem reads_optional {a : Ast} {P : Plans} {f : Nat} {n : String}
    (hN : Reads XVal.enc (evalImpl a P f n) (·.fsize < f) (hasTypeNamed a n) (reprNamed a n))
    {fld : StructField} (hopt : fld.isOptional = true) (hfv : fld.fieldValue = .none (.ident n)) :
    Reads XVal.enc (evalOpt (evalImpl a P f n)) (·.fsize + 2 < f) (fieldHasType a fld) (reprField a fld) where
  complete x hx hf off s l := by
    rcases (fieldHasType_optional hopt hfv).mp hx with rfl | ⟨x', rfl, hx'⟩
    · exact .intro l (by simp only [evalOpt, XVal.enc, readU32_be32 0 (by decide), Res.bind_ok, if_true, be32_length, reprField_optNone hopt])
    · simp only [XVal.fsize] at hf
      simp only [evalOpt, XVal.enc, List.append_assoc, readU32_be32 1 (by decide), Res.bind_ok, Nat.succ_ne_self, if_false, if_true,
        reprField_optSome hopt hfv, reprBasic_ident_eq hx', List.length_append, be32_length, ← Nat.add_assoc]
      apply DecOk.bind (hN.complete x' hx' (by omega) (off + 4) s l)
      exact fun l1 => .intro (l1 ++ [.box]) rfl
  sound c v c' h := by
    obtain ⟨m, c1, h1, ⟨rfl, rfl⟩ | ⟨w, c2, h2, rfl, rfl⟩⟩ := evalOpt_ok h <;> obtain ⟨rfl, _, _, _⟩ := readU32_ok h1
    · exact ⟨.optNone, (fieldHasType_optional hopt hfv).mpr (.inl rfl), (reprField_optNone hopt _).symm, rfl⟩
    · obtain ⟨x, hx, rfl, hoff⟩ := hN.sound _ w c2 h2
      refine ⟨.optSome x, (fieldHasType_optional hopt hfv).mpr (.inr ⟨x, rfl, hx⟩), ?_, ?_⟩
      · rw [reprField_optSome hopt hfv, reprBasic_ident_eq hx]
        rfl
      · simp only [Cur.addLog, XVal.enc, List.length_append, be32_length, hoff, Cur.advance_off, Nat.add_assoc]

theorem step_basic {a : Ast} {P : Plans} {f : Nat} (ihI : ImplReads a P f) : BasicReads a P (f + 1) := by
  intro t hd
  by_cases hid : ∃ n, t = .ident n
  · obtain ⟨n, rfl⟩ := hid
    exact (ihI n hd).congr (fun _ => rfl) (fun x h => by omega) (hasTypeBasic_ident a n)
      (fun off x hx => reprBasic_ident_eq hx off)
  · exact reads_leaf a P (fun n e => hid ⟨n, e⟩) f

theorem step_repeat {a : Ast} {P : Plans} {f : Nat} (ihB : BasicReads a P f) (ihR : RepeatReads a P f) :
    RepeatReads a P (f + 1) := by
  intro t k hd
  refine ⟨fun xs hx hf off s l => ?_, fun c vs c' h => ?_⟩
  · simp only [Bool.and_eq_true, beq_iff_eq] at hx
    obtain ⟨rfl, hall⟩ := hx
    cases xs with
    | nil => exact .intro l (by simp [XVals.len, evalRepeat, XVals.enc, reprAll])
    | cons x rest =>
      simp only [allHaveType, Bool.and_eq_true] at hall
      simp only [XVals.fsize] at hf
      simp only [XVals.len, evalRepeat, XVals.enc, List.append_assoc]
      apply DecOk.bind ((ihB t hd).complete x hall.1 (by omega) off (rest.enc ++ s) l)
      intro l1
      apply DecOk.bind ((ihR t _ hd).complete rest (by simp [hall.2]) (by omega) (off + x.enc.length) s l1)
      exact fun l2 => .intro l2 (by simp only [reprAll, List.length_append, Nat.add_assoc])
  · cases k with
    | zero =>
      cases h
      exact ⟨.nil, by simp [XVals.len, allHaveType], by rw [reprAll], by simp [XVals.enc]⟩
    | succ k =>
      simp only [evalRepeat] at h
      obtain ⟨v, c1, h1, h2⟩ := Res.bind_eq_ok h
      obtain ⟨vs2, c2, h3, h4⟩ := Res.bind_eq_ok h2
      cases h4
      obtain ⟨x, hx, hv, ho1⟩ := (ihB t hd).sound c v c1 h1
      obtain ⟨xs, hxs, hvs, ho2⟩ := (ihR t k hd).sound c1 vs2 c' h3
      simp only [Bool.and_eq_true, beq_iff_eq] at hxs
      refine ⟨.cons x xs, by simp [XVals.len, allHaveType, hx, hxs.1, hxs.2], by rw [reprAll, hv, hvs, ho1], ?_⟩
      simp only [XVals.enc, List.length_append]; omega

theorem step_field {a : Ast} {P : Plans} {f : Nat} (R : RT a P) (F : SFacts a) (ihI : ImplReads a P f) (ihB : BasicReads a P f)
    (ihR : RepeatReads a P f) : FieldReads a P (f + 1) := by
  intro at_ fd hplan hsz
  cases hplan with
  | @one t hd =>
    exact (ihB t hd).congr (fun _ => rfl) (fun x hx => by omega) (hasType_none a t) (fun off x _ => repr_none a t off x)
  | @fixedBytes sz n hn => exact reads_fixedBytes (resolve_bound F hsz hn)
  | @fixedArr0 t sz ho hs hd hn => exact reads_fixedArr ihR ho hs hd (resolve_bound F hsz hn) (absurd rfl)
  | @fixedArr t sz n ho hs hd hn h0 => exact reads_fixedArr ihR ho hs hd (resolve_bound F hsz hn) fun _ => rfl
  | @varBytes m lim hl => exact reads_varBytes (resolveOpt_limit F hsz hl)
  | @varString m lim hl => exact reads_varString (resolveOpt_limit F hsz hl)
  | @varArr c m lim hd hl => exact reads_varArr R.sizeExact (ihI c hd) (resolveOpt_limit F hsz hl) _

theorem step_fields {a : Ast} {P : Plans} {f : Nat} (ihI : ImplReads a P f) (ihF : FieldReads a P f)
    (ihFs : FieldsReads a P f) : FieldsReads a P (f + 1) := by
  intro fields fds hp
  cases hp with
  | nil =>
    refine ⟨fun xs hx _ off s l => ?_, fun c vs c' h => ?_⟩
    · cases xs with
      | nil => exact .intro l (by simp [evalFields, XVals.enc, reprFields])
      | cons v vs => simp [fieldsHaveType] at hx
    · cases h
      exact ⟨.nil, by simp [fieldsHaveType], by simp [reprFields], by simp [XVals.enc]⟩
  | @cons fld sfd rest sfds hfld hrest =>
    have h1 : Reads XVal.enc
        (fun c => match sfd with
          | .plain _ fd => evalField a P f fd c
          | .optional _ ty => evalOpt (evalImpl a P f ty) c)
        (·.fsize + 2 < f) (fieldHasType a fld) (reprField a fld) := by
      cases hfld with
      | @optional n hopt hfv hd => exact reads_optional (ihI n hd) hopt hfv
      | @plain fd hopt hdecl hplan =>
        exact (ihF fld.fieldValue fd hplan (declaratorOk_iff.mp hdecl).2.1).congr (fun _ => rfl) (fun _ h => h)
          (fieldHasType_plain hopt) (fun off x _ => reprField_plain hopt off x)
    have h2 := ihFs rest sfds hrest
    refine ⟨fun xs hx hf off s l => ?_, fun c vs c' h => ?_⟩
    · cases xs with
      | nil => simp [fieldsHaveType] at hx
      | cons v vs =>
        simp only [fieldsHaveType, Bool.and_eq_true] at hx
        simp only [XVals.fsize] at hf
        simp only [evalFields, XVals.enc, List.append_assoc]
        apply DecOk.bind (h1.complete v hx.1 (by omega) off (vs.enc ++ s) l)
        intro l1
        apply DecOk.bind (h2.complete vs hx.2 (by omega) (off + v.enc.length) s l1)
        exact fun l2 => .intro l2 (by simp only [reprFields, List.length_append, Nat.add_assoc])
    · simp only [evalFields] at h
      obtain ⟨v, c1, e1, h⟩ := Res.bind_eq_ok h
      obtain ⟨vs2, c2, e2, h⟩ := Res.bind_eq_ok h
      cases h
      obtain ⟨x, hx, hv, ho1⟩ := h1.sound c v c1 e1
      obtain ⟨xs, hxs, hvs, ho2⟩ := h2.sound c1 vs2 c' e2
      refine ⟨.cons x xs, by simp [fieldsHaveType, hx, hxs], by rw [reprFields, hv, hvs, ho1], ?_⟩
      simp only [XVals.enc, List.length_append]
      omega

theorem reads_union {a : Ast} {P : Plans} {f : Nat} (R : RT a P) (F : SFacts a) (ihF : FieldReads a P f) {n : String} {u : Union}
    (hb : bget n a.types = some (.union u)) :
    Reads XVal.enc (evalImpl a P (f + 1) n) (·.fsize < f + 1) (hasTypeNamed a n) (reprNamed a n) := by
  obtain ⟨i, hfi, hemit⟩ := R.find n _ hb
  have hty : unionOk a u = true := (R.tyOk n _ hb).1
  obtain ⟨disc, hdisc, hbody⟩ := emitImpl_union_ok hty hemit
  have hD := disc_reads F R.find u (unionOk_facts hty).1 hdisc f
  -- an arm is `type name;`: no bounds (the `rfl`)
  have harm : ∀ {d lab ty fd}, selectDeclared a u d = .data lab ty → decodeArray a ty .useAlias = .ok fd →
      Reads XVal.enc (evalField a P f fd) (·.fsize + 2 < f) (hasType a ty) (repr a ty) := by
    intro d lab ty fd hsd hfd
    obtain ⟨t, rfl, _, hd⟩ := armTypeOk_iff.mp (selectDeclared_armOk hty hsd)
    exact ihF _ fd (decodeArray_alias_plan F.safe (at_ := .none t) hd hfd) rfl
  refine ⟨fun x hx hf off s l => ?_, fun c v c' h => ?_⟩
  · obtain ⟨d, arm, rfl, hd⟩ := hasTypeNamed_union_inv hb hx
    simp only [XVal.fsize] at hf
    obtain ⟨f', rfl⟩ : ∃ f', f = f' + 2 := ⟨f - 2, by omega⟩
    rw [evalImpl_union hfi hbody]
    simp only [XVal.enc, List.append_assoc]
    apply DecOk.bind (hD.complete d hd (Nat.le_add_left 2 f') off (arm.enc ++ s) l)
    intro l1
    cases hsd : selectDeclared a u d with
    | data lab ty =>
      obtain ⟨fd, hfd, hT⟩ := evalArms_data R.selects hb hfi hbody hd hsd
      rw [hasTypeNamed_union_data hb hsd, Bool.and_eq_true] at hx
      rw [hT, reprNamed_union_data hb hsd]
      apply DecOk.bind ((harm hsd hfd).complete arm hx.2 (by omega) (off + 4) s l1)
      exact fun l2 => .intro l2 (by simp only [be32_length, List.length_append, Nat.add_assoc])
    | void lab =>
      obtain rfl := ((hasTypeNamed_union_void hb hsd).mp hx).2
      rw [evalArms_void R.selects hb hfi hbody hd hsd, reprNamed_union_void hb hsd]
      exact .intro l1 (by simp only [XVal.enc, List.append_nil, List.nil_append, be32_length])
    | noArm => simp only [hasTypeNamed_union_noArm hb hsd, Bool.false_eq_true] at hx
  · rw [evalImpl_union hfi hbody] at h
    obtain ⟨dv, c1, h1, h2⟩ := Res.bind_eq_ok h
    obtain ⟨w, hw, rfl, ho1⟩ := hD.sound c dv c1 h1
    rw [be32_length] at ho1
    cases hsd : selectDeclared a u w with
    | data lab ty =>
      obtain ⟨fd, hfd, hT⟩ := evalArms_data R.selects hb hfi hbody hw hsd
      rw [hT] at h2
      obtain ⟨pv, c2, h3, h4⟩ := Res.bind_eq_ok h2
      cases h4
      obtain ⟨px, hpx, hpv, ho2⟩ := (harm hsd hfd).sound c1 pv c' h3
      refine ⟨.union w px, by rw [hasTypeNamed_union_data hb hsd, hw, hpx]; rfl, by rw [reprNamed_union_data hb hsd, hpv, ho1], ?_⟩
      simp only [XVal.enc, List.length_append, be32_length]
      omega
    | void lab =>
      rw [evalArms_void R.selects hb hfi hbody hw hsd] at h2
      cases h2
      refine ⟨.union w .void, (hasTypeNamed_union_void hb hsd).mpr ⟨hw, rfl⟩, (reprNamed_union_void hb hsd _ _).symm, ?_⟩
      simp only [XVal.enc, List.length_append, be32_length, List.length_nil]
      omega
    | noArm =>
      rw [evalArms_noArm R.selects hb hfi hbody hw hsd] at h2
      cases h2

theorem step_impl {a : Ast} {P : Plans} {f : Nat} (R : RT a P) (F : SFacts a) (ihF : FieldReads a P f) (ihFs : FieldsReads a P f) :
    ImplReads a P (f + 1) := by
  intro n hdecl
  obtain ⟨ty, hb⟩ := declared_iff.mp hdecl
  obtain ⟨i, hfi, hemit⟩ := R.find n _ hb
  obtain ⟨hty, hname⟩ := R.tyOk n _ hb
  cases ty with
  | struct sdef =>
    have hfo := (typeOk_struct hty).2
    obtain ⟨fds, hfds, hbody⟩ := emitImpl_struct_ok F.safe hty hemit
    have hF := ihFs sdef.fields fds hfds
    have hnames := emit_field_names hfo hfds
    refine ⟨fun x hx hf off s l => ?_, fun c v c' h => ?_⟩
    · obtain ⟨fs, rfl, hfs⟩ := (hasTypeNamed_struct hb).mp hx
      simp only [XVal.fsize] at hf
      simp only [evalImpl_struct hfi hbody, XVal.enc, reprNamed_struct hb]
      apply DecOk.bind (hF.complete fs hfs (by omega) off s l)
      exact fun l1 => .intro l1 (by rw [hnames])
    · rw [evalImpl_struct hfi hbody] at h
      obtain ⟨vs, c1, h1, h2⟩ := Res.bind_eq_ok h
      cases h2
      obtain ⟨xs, hxs, hvs, hoff⟩ := hF.sound c vs c' h1
      exact ⟨.struct xs, (hasTypeNamed_struct hb).mpr ⟨_, rfl, hxs⟩, by rw [reprNamed_struct hb, hnames, hvs],
        by simpa [XVal.enc] using hoff⟩
  | union u => exact reads_union R F ihF hb
  | enum e =>
    refine ⟨fun x hx hf off s l => ?_, fun c v c' h => ?_⟩
    · obtain ⟨w, rfl, hw⟩ := (hasTypeNamed_enum hb).mp hx
      have hlt : w < 2^31 := enum_value_lt e hty w hw
      obtain ⟨m, hm⟩ := enumMemberName_some hw
      simp only [evalImpl_enum_declared hfi hemit hty, reprNamed_enum hb, XVal.enc, readU32_be32 w (by omega), Res.bind_ok, hm]
      exact .intro l rfl
    · obtain ⟨w, m, hw, hm, rfl, ho⟩ := evalImpl_enum_ok hfi hemit hty h
      exact ⟨.enumv w, (hasTypeNamed_enum hb).mpr ⟨_, rfl, hw⟩, by rw [reprNamed_enum hb, hm], ho⟩
  | typedef td =>
    have hself : a.getType td.alias.unwrapArray.asStr = some (.typedef td) := by
      simp only [AstType.rustName] at hname
      rw [hname]
      exact hb
    obtain ⟨fd, hplan, hbody⟩ := emitImpl_typedef_ok F.safe hty hself hemit
    have hA := ihF (wrapAlias td) fd hplan (typedefOk_facts hty).2.2.2
    refine ⟨fun x hx hf off s l => ?_, fun c v c' h => ?_⟩
    · obtain ⟨v, rfl, hv⟩ := (hasTypeNamed_typedef hb).mp hx
      simp only [XVal.fsize] at hf
      simp only [evalImpl_typedef hfi hbody, XVal.enc, reprNamed_alias hb]
      apply DecOk.bind (hA.complete v hv (by omega) off s l)
      exact fun l1 => .intro l1 rfl
    · rw [evalImpl_typedef hfi hbody] at h
      obtain ⟨pv, c1, h1, h2⟩ := Res.bind_eq_ok h
      cases h2
      obtain ⟨px, hpx, hpv, hoff⟩ := hA.sound c pv c' h1
      exact ⟨.alias px, (hasTypeNamed_typedef hb).mpr ⟨_, rfl, hpx⟩, by rw [reprNamed_alias hb, hpv], by simpa [XVal.enc] using hoff⟩

structure AllReads (a : Ast) (P : Plans) (fuel : Nat) : Prop where
  impl : ImplReads a P fuel
  basic : BasicReads a P fuel
  field : FieldReads a P fuel
  rep : RepeatReads a P fuel
  fields : FieldsReads a P fuel

theorem reads_all {a : Ast} {P : Plans} (R : RT a P) (F : SFacts a) : ∀ (fuel : Nat), AllReads a P fuel
  | 0 => by
    refine ⟨fun _ _ => ⟨?_, ?_⟩, fun _ _ => ⟨?_, ?_⟩, fun _ _ _ _ => ⟨?_, ?_⟩, fun _ _ _ => ⟨?_, ?_⟩, fun _ _ _ => ⟨?_, ?_⟩⟩
    -- no value is small enough for no fuel; no evaluator answers `Ok` without fuel
    all_goals first
      | exact fun _ _ hf => absurd hf (Nat.not_lt_zero _)
      | exact fun _ _ _ h => nomatch h
  | f + 1 =>
    have ih := reads_all R F f
    ⟨step_impl R F ih.field ih.fields, step_basic ih.impl, step_field R F ih.impl ih.basic ih.rep,
     step_repeat ih.basic ih.rep, step_fields ih.impl ih.field ih.fields⟩

/-- `complete` is `C01_roundtrip_supported`, `sound` is `decode_sound` -/
theorem supported_reads {a : Ast} {m : Module} (hs : Supported a = true) (hg : generateModule a = .ok m) (fuel : Nat) (n : String)
    (hn : declared a n = true) : Reads XVal.enc (evalImpl a m.plans fuel n) (·.fsize < fuel) (hasTypeNamed a n) (reprNamed a n) :=
  (reads_all (rt_of_supported hs hg) (sfacts_of_supported hs) fuel).impl n hn

/-- C05/C06, for EVERY byte string.  Padding is skipped, not inspected: the theorem is about the value and the length. -/
theorem decode_sound {a : Ast} {m : Module} (hs : Supported a = true) (hg : generateModule a = .ok m)
    (n : String) (hn : declared a n = true) (fuel : Nat) (c : Cur) (v : Val) (c' : Cur)
    (h : evalImpl a m.plans fuel n c = .ok v c') :
    ∃ x, hasTypeNamed a n x = true ∧ v = reprNamed a n c.off x ∧ c'.off = c.off + x.enc.length :=
  (supported_reads hs hg fuel n hn).sound c v c' h

end Fx
