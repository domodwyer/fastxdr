/-
  Fx.Lemmas.ParseUnion — unions: arms with bodies, `void`, fall-through labels and `default`, under any layout.
-/
import Fx.Lemmas.ParseField
namespace Fx.Parse
open Fx.Peg

-- where a declarator is *not* found (needed after a fall-through label and in front of `void`)

/-- `name` layout symbol: the name is read as a type, and no declarator name follows -/
theorem df_fail_name_sym {n : List Char} (hn : validIdent n = true) {L : Layout} (hL : L.ok = true) {c : Char} {r : List Char}
    (hs : SymStart (c :: r)) (hstar : c ≠ '*') (p : Nat) :
    EFail X false (.ref "data_field") ⟨p, n ++ (L.text ++ (c :: r))⟩ := by
  obtain ⟨_, _, e, hc, hws, hsl⟩ := hs
  cases e
  refine EFail.ref (has_data_field.fail ?_)
  have A := (Acc.alt1 (b := .ref "basic_type") (Acc.ident hn)) p (L.text ++ (c :: r)) (noIdent_layout hL (Ahead.cons hc))
  have S := skOk_layout L (p + n.length) (c :: r) hL (Starts.ahead rfl ⟨hws, hsl⟩)
  refine EFail.seq2 A S (EFail.seq1 (EFail.alt ?_ ?_))
  · exact (Rej.kw has_option) _ _ (Starts.cons.notStarts hstar)
  · exact Rej.ident _ _ (Ahead.cons hc)

/-- `name` layout `name` layout `:` — a type and a name, but no `;` -/
theorem df_fail_two_names {n1 n2 : List Char} (h1 : validIdent n1 = true) (h2 : validIdent n2 = true) {L1 L2 : Layout}
    (hL1 : L1.ok = true) (hne : L1.text ≠ []) (hL2 : L2.ok = true) (r : List Char) (p : Nat) :
    EFail X false (.ref "data_field") ⟨p, n1 ++ (L1.text ++ (n2 ++ (L2.text ++ (':' :: r))))⟩ := by
  refine EFail.ref (has_data_field.fail ?_)
  have A := (Acc.alt1 (b := .ref "basic_type") (Acc.ident h1)) p (L1.text ++ (n2 ++ (L2.text ++ (':' :: r))))
    (noIdent_layout_ne hL1 hne)
  have S := skOk_layout L1 (p + n1.length) (n2 ++ (L2.text ++ (':' :: r))) hL1 (tokStart_ident h2).noLayout
  refine EFail.seq2 A S ?_
  have B := Acc.alt2 (Rej.kw has_option) (Acc.ident h2) (fun x _ => notStarts_ident h2 (by decide) x)
    (p + n1.length + L1.text.length) (L2.text ++ (':' :: r)) (noIdent_layout hL2 (Ahead.cons (by decide)))
  have S2 := skOk_layout L2 (p + n1.length + L1.text.length + n2.length) (':' :: r) hL2 (Starts.ahead rfl ⟨by decide, by decide⟩)
  refine EFail.seq2 B S2 ?_
  have O : EOk X false (.opt (.ref "array")) ⟨p + n1.length + L1.text.length + n2.length + L2.text.length, ':' :: r⟩
      ⟨p + n1.length + L1.text.length + n2.length + L2.text.length, ':' :: r⟩ [] :=
    EOk.opt_none ((Rej.arr (c := ':') (by decide) (by decide)) _ _ rfl)
  exact EFail.seq2 O (skOk_none _ _ (Starts.ahead rfl ⟨by decide, by decide⟩)) (EFail.str (by simp [matchStr]))

theorem Acc.body (b : Body) (h : b.ok = true) : Acc eBody b.text b.tokens (fun _ => True) := by
  cases b with
  | field f => exact Acc.alt1 (Acc.rule has_union_data_field (Acc.field f h))
  | void l =>
    have hv : Acc (.ref "union_void") (kwVoid ++ (l.text ++ [';'])) [Pair.mk "union_void" (kwVoid ++ (l.text ++ [';'])) ([] ++ [])]
        (fun _ => True) :=
      Acc.rule has_union_void ((Acc.str kwVoid).then l h (Acc.str [';']) tokStart_cons)
    refine (Acc.alt2 (C' := fun x => ∃ r, x = kwVoid ++ (l.text ++ (';' :: r))) ?_ hv
      (fun r _ => ⟨r, by simp [List.append_assoc]⟩)).castT rfl (by simp [Body.tokens, Body.text])
    rintro p x ⟨r, rfl⟩
    exact EFail.ref (has_union_data_field.fail
      (df_fail_name_sym (n := kwVoid) (by decide) h symStart_cons (by decide) p))

-- what may follow a fall-through label: the next arm, or the closing brace

inductive FtNext : List Char → Prop
  | close (r : List Char) : FtNext ('}' :: r)
  | dflt (la : Layout) (hla : la.ok = true) (r : List Char) : FtNext (kwDefault ++ (la.text ++ (':' :: r)))
  | case (la : Layout) (lab : Lit) (lb : Layout) (hla : la.ok = true) (hlab : lab.ok = true) (hlb : lb.ok = true) (r : List Char) :
      FtNext (kwCase ++ (la.text ++ (lab.text ++ (lb.text ++ (':' :: r)))))

theorem FtNext.noLayout {x : List Char} (h : FtNext x) : NoLayoutStart x := by
  cases h with
  | close r => simpa using (tokStart_cons (c := '}') (cs := r)).noLayout (r := [])
  | dflt la hla r => exact (tokStart_cons (c := 'd')).noLayout
  | case la lab lb _ _ _ r => exact (tokStart_cons (c := 'c')).noLayout

theorem validIdent_lit {l : Lit} (h : l.ok = true) : validIdent l.text = true := by
  cases l with
  | name n => exact (Lit.name_ok h).1
  | num d =>
    obtain ⟨hne, hd⟩ := Lit.num_ok h
    refine validIdent_iff.mpr ⟨hne, List.all_eq_true.mpr fun c hc => digit_ident (List.all_eq_true.mp hd c hc), fun hm => ?_⟩
    have : ∀ w ∈ typeWords, allDigit w = false := by decide
    exact absurd (hd.symm.trans (this _ hm)) (by simp)

theorem validIdent_case_app {n : List Char} (h : validIdent n = true) : validIdent (kwCase ++ n) = true := by
  obtain ⟨_, hall, _⟩ := validIdent_iff.mp h
  refine validIdent_iff.mpr ⟨by simp [kwCase], ?_, fun hm => ?_⟩
  · simp only [allIdent, List.all_append, Bool.and_eq_true]
    exact ⟨by decide, hall⟩
  · have : ∀ w ∈ typeWords, w.head? ≠ some 'c' := by decide
    exact this _ hm rfl

/-- no body after a fall-through label: in front of `}` no declarator starts; `default` is read as a type name and `:` is no
    declarator name; `case L` likewise, or — `caseL:` without a gap — as one identifier followed by `:` -/
theorem Rej.bodyFt : Rej eBody FtNext := by
  intro p x hx
  refine EFail.alt (EFail.ref (has_union_data_field.fail ?_)) (EFail.ref (has_union_void.fail (EFail.seq1 (EFail.str ?_))))
  · cases hx with
    | close r => exact Rej.dataField p _ (Ahead.cons (by decide))
    | dflt la hla r => exact df_fail_name_sym (n := kwDefault) (by decide) hla symStart_cons (by decide) p
    | case la lab lb hla hlab hlb r =>
      by_cases he : la.text = []
      · have := df_fail_name_sym (validIdent_case_app (validIdent_lit hlab)) hlb (c := ':') (r := r) symStart_cons
          (by decide) p
        simpa [he, List.append_assoc] using this
      · exact df_fail_two_names (n1 := kwCase) (by decide) (validIdent_lit hlab) hla he hlb r p
  · cases hx with
    | close r => simp [matchStr, kwVoid]
    | dflt la hla r => simp [matchStr, kwVoid, kwDefault]
    | case la lab lb _ _ _ r => simp [matchStr, kwVoid, kwCase]

def Arm.After (a : Arm) (r : List Char) : Prop := if a.isFt then FtNext r else True

theorem tokStart_body {b : Body} (h : b.ok = true) : TokStart b.text := by
  cases b with
  | void l => exact tokStart_cons (c := 'v')
  | field f => exact tokStart_field h

theorem tokStart_arm {a : Arm} : TokStart a.text := by
  cases a <;> exact tokStart_cons

theorem Acc.arm (a : Arm) (h : a.ok = true) : Acc eArm a.text a.tokens a.After := by
  cases a with
  | case la lab lb lc body =>
    obtain ⟨hla, hlab, hlb, hlc, hb⟩ := Arm.case_ok h
    refine Acc.alt1 ?_
    have aOpt : Acc (.opt eBody) (optBodyText body) (optBodyToks body) (Arm.case la lab lb lc body).After := by
      cases body with
      | none => exact (Acc.opt_none Rej.bodyFt).mono (fun r hr => by simpa [Arm.After, Arm.isFt] using hr)
      | some b => exact (Acc.opt_some (Acc.body b (hb b rfl))).mono (fun _ _ => trivial)
    have a3 := (Acc.str [':']).seq lc hlc aOpt (hafter := fun _ _ => trivial) (hstart := fun r hr => by
      cases body with
      | none => simpa [optBodyText] using FtNext.noLayout (by simpa [Arm.After, Arm.isFt] using hr)
      | some b => exact (tokStart_body (hb b rfl)).noLayout)
    have a2 := (Acc.ruleS has_union_case_value (Acc.lit lab hlab)).thenSym lb hlb a3 symStart_cons
    have a1 := (Acc.str kwCase).then la hla a2 ((tokStart_lit hlab).app)
    exact (Acc.rule has_union_case a1).castT rfl (by simp [Arm.tokens, Arm.text])
  | dflt la lb body =>
    obtain ⟨hla, hlb, hb⟩ := Arm.dflt_ok h
    have a2 := (Acc.str [':']).then lb hlb (Acc.body body hb) (tokStart_body hb)
    have a1 := (Acc.str kwDefault).then la hla a2 tokStart_cons
    have hd := (Acc.rule has_union_default a1).castT rfl (by simp [Arm.tokens, Arm.text] : _ = (Arm.dflt la lb body).tokens)
    exact (Acc.alt2 (C' := Starts 'd') ((Rej.kw has_union_case).mono fun _ h => h.notStarts (by decide)) hd
      (fun r _ => by simp [kwDefault, Starts])).mono (fun _ _ => trivial)

theorem Rej.arm : Rej eArm (Starts '}') :=
  Rej.alt ((Rej.kw has_union_case).mono fun _ h => h.notStarts (by decide)) ((Rej.kw has_union_default).mono fun _ h => h.notStarts (by decide))

theorem arm_ftNext (a : Arm) (h : a.ok = true) (y : List Char) : FtNext (a.text ++ y) := by
  cases a with
  | case la lab lb lc body =>
    obtain ⟨hla, hlab, hlb, _, _⟩ := Arm.case_ok h
    have := FtNext.case la lab lb hla hlab hlb (lc.text ++ (optBodyText body ++ y))
    simpa [Arm.text, List.append_assoc] using this
  | dflt la lb body =>
    have := FtNext.dflt la (Arm.dflt_ok h).1 (lb.text ++ (body.text ++ y))
    simpa [Arm.text, List.append_assoc] using this

theorem arms_elemsOk (r : List Char) (hr : Starts '}' r) : ∀ (arms : List (Arm × Layout)),
    (∀ al ∈ arms, al.1.ok = true ∧ al.2.ok = true ∧ (al.1.isFt = true → al.2.text = [])) →
    elemsOk eArm r (arms.map armElem) ∧ FtNext (nextOf (arms.map armElem) r) := by
  intro arms
  induction arms with
  | nil =>
    intro _
    refine ⟨trivial, ?_⟩
    cases r with
    | nil => simp [Starts] at hr
    | cons c cs =>
      have : c = '}' := by simpa [Starts] using hr
      subst this; exact FtNext.close cs
  | cons al arms ih =>
    intro h
    obtain ⟨haok, hlok, hft⟩ := h al List.mem_cons_self
    obtain ⟨hrestOk, hnext⟩ := ih fun x hx => h x (List.mem_cons_of_mem _ hx)
    refine ⟨⟨?_, hlok, tokStart_arm.noLayout, ?_, hrestOk⟩, arm_ftNext al.1 haok _⟩
    · obtain ⟨c, cs, e, _, _⟩ := tokStart_arm (a := al.1)
      simp [armElem, e]
    · intro p
      refine Acc.arm al.1 haok p _ ?_
      simp only [Arm.After]
      split
      · rename_i hisft
        simp only [armElem]
        rw [tailText_next, hft hisft]
        simpa using hnext
      · trivial

theorem Acc.unionD (d : UnionD) (h : d.ok = true) : Acc (.ref "union") d.text d.tokens (fun _ => True) := by
  have ok := UnionD.of_ok h
  have a8 := Acc.block d.l8 d.l9 ok.l8 ok.l9 Rej.arm _ (fun r hr => (arms_elemsOk r hr d.arms ok.arms).1) fun el hel => by
    obtain ⟨al, _, rfl⟩ := List.mem_map.mp hel
    exact tokStart_arm
  have a7 := (Acc.str [')']).then d.l7 ok.l7 a8 tokStart_cons
  have a6 := (Acc.ident ok.var).thenSym d.l6 ok.l6 a7 symStart_cons
  have a5 := (Acc.tyref d.ty ok.ty).seq d.l5 ok.l5 a6
    (hafter := fun r _ => TyRef.after_of_sep ok.l5 ok.sep nofun (tokStart_ident ok.var).app.noLayout.ws)
    (hstart := fun _ _ => (tokStart_ident ok.var).app.noLayout)
  have a4 := (Acc.str ['(']).then d.l4 ok.l4 a5 (tokStart_tyref ok.ty).app
  have a3 := (Acc.str kwSwitch).then d.l3 ok.l3 a4 tokStart_cons
  -- after the union's name `switch` must not continue it: a layout is required
  have a2 := (Acc.ident ok.name).seq d.l2 ok.l2 a3 (hafter := fun r _ => noIdent_layout_ne ok.l2 ok.l2ne)
    (hstart := fun _ _ => (tokStart_cons).noLayout)
  have a1 := (Acc.str kwUnion).then d.l1 ok.l1 a2 ((tokStart_ident ok.name).app)
  exact (Acc.rule has_union a1).castT rfl (by simp [UnionD.tokens, UnionD.text])

end Fx.Parse
