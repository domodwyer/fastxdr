/-
  Fx.Lemmas.IndexFacts — the indexes of `Ast.ofItems items`: the conjuncts of `Supported` about their shape (keys, order,
  `enumConstsOk`, `constsWellFormed`) hold whenever type names are declared once; a declaration is generic iff it hits.
-/
import Fx.Lemmas.Out
import Fx.Lemmas.Generic
import Fx.Lemmas.Bins
import Fx.Supported
namespace Fx

theorem keysSorted_of_sortedK : ∀ (m : List (String × AstType)), SortedK m → keysSorted m = true
  | [], _ => rfl
  | [_], _ => rfl
  | a :: b :: rest, h => by
    obtain ⟨h1, h2⟩ := List.pairwise_cons.mp h
    simp only [keysSorted, Bool.and_eq_true, decide_eq_true_eq]
    exact ⟨h1 b List.mem_cons_self, keysSorted_of_sortedK _ h2⟩

theorem sortedK_of_keysSorted : ∀ (m : List (String × AstType)), keysSorted m = true → SortedK m
  | [], _ => .nil
  | [_], _ => List.pairwise_singleton _ _
  | a :: b :: rest, h => by
    simp only [keysSorted, Bool.and_eq_true, decide_eq_true_eq] at h
    have ih := sortedK_of_keysSorted (b :: rest) h.2
    refine List.pairwise_cons.mpr ⟨fun x hx => ?_, ih⟩
    rcases List.mem_cons.mp hx with rfl | hx
    · exact h.1
    · exact String.lt_trans h.1 (List.rel_of_pairwise_cons ih hx)

theorem Ast.ofItems_eq_ok {items : List Item} {a : Ast} :
    Ast.ofItems items = .ok a ↔
      ∃ cs, ConstantIndex.new items = .ok cs ∧ a = ⟨cs, GenericIndex.new items, TypeIndex.new items⟩ := by
  constructor
  · intro h
    obtain ⟨cs, hc, h⟩ := Out.bind_eq_ok h
    exact ⟨cs, hc, (Out.ok.inj h).symm⟩
  · rintro ⟨cs, hc, rfl⟩
    rw [Ast.ofItems, hc]
    rfl

theorem typeEntry_key {item : Item} {k : String} {v : AstType} (h : typeEntry item = some (k, v)) : k = v.rustName := by
  cases item <;> cases h <;> rfl

theorem typeIndex_sorted (items : List Item) : SortedK (TypeIndex.new items) :=
  sorted_binsAll List.Pairwise.nil

theorem typeIndex_mem {items : List Item} {kv : String × AstType} (h : kv ∈ TypeIndex.new items) :
    ∃ item ∈ items, typeEntry item = some kv :=
  List.mem_filterMap.mp ((of_mem_binsAll h).resolve_right nofun)

theorem typeIndex_complete {items : List Item} (hd : (items.filterMap typeEntry).Pairwise (fun x y => x.1 ≠ y.1))
    {kv : String × AstType} (h : kv ∈ items.filterMap typeEntry) : bget kv.1 (TypeIndex.new items) = some kv.2 :=
  bget_binsAll_of_mem hd h

theorem constIndex_spec {items : List Item} {cs : List (String × ConstantType)} (h : ConstantIndex.new items = .ok cs) :
    SortedK cs ∧ (∀ x, x ∈ cs ↔ x ∈ constEntries items) ∧ ∀ x ∈ constEntries items, bget x.1 cs = some x.2 := by
  obtain ⟨rfl, hd, _⟩ := constInsertAll_ok h
  have hget := fun x (hx : x ∈ constEntries items) => bget_binsAll_of_mem (m := []) hd hx
  exact ⟨sorted_binsAll .nil,
    fun x => ⟨fun hx => (of_mem_binsAll hx).resolve_right nofun, fun hx => mem_of_bget (hget x hx)⟩, hget⟩

def itemConstEntries : Item → List (String × ConstantType)
  | .constant n v => [(n, .constValue v)]
  | .enum e => e.variants.map (fun v => (v.name, ConstantType.enumValue e.name v.name))
  | _ => []

theorem constEntries_eq_flatMap : ∀ (items : List Item), constEntries items = items.flatMap itemConstEntries
  | [] => rfl
  | it :: rest => by
    rw [List.flatMap_cons, ← constEntries_eq_flatMap rest]
    cases it <;> rfl

theorem constEntries_enum_mem {items : List Item} {e : Enum} (h : Item.enum e ∈ items) {v : Variant}
    (hv : v ∈ e.variants) : (v.name, ConstantType.enumValue e.name v.name) ∈ constEntries items := by
  rw [constEntries_eq_flatMap]
  exact List.mem_flatMap.mpr ⟨_, h, List.mem_map.mpr ⟨v, hv, rfl⟩⟩

theorem constEntries_enum_inv {items : List Item} {k e v : String}
    (h : (k, ConstantType.enumValue e v) ∈ constEntries items) :
    v = k ∧ ∃ en, Item.enum en ∈ items ∧ en.name = e ∧ ∃ var ∈ en.variants, var.name = k := by
  rw [constEntries_eq_flatMap] at h
  obtain ⟨it, hit, hx⟩ := List.mem_flatMap.mp h
  cases it with
  | enum en =>
    obtain ⟨var, hvar, heq⟩ := List.mem_map.mp hx
    cases heq
    exact ⟨rfl, en, hit, rfl, var, hvar, rfl⟩
  | constant n val => cases List.mem_singleton.mp hx
  | _ => cases hx

theorem index_facts_of_front_end (items : List Item) (a : Ast) (ha : Ast.ofItems items = .ok a)
    (hd : (items.filterMap typeEntry).Pairwise (fun x y => x.1 ≠ y.1)) :
    (∀ kv ∈ a.types, kv.1 = kv.2.rustName) ∧ keysSorted a.types = true ∧ enumConstsOk a = true ∧ constsWellFormed a = true := by
  obtain ⟨cs, hc, rfl⟩ := Ast.ofItems_eq_ok.mp ha
  obtain ⟨_, hcm, hcg⟩ := constIndex_spec hc
  refine ⟨fun kv hkv => ?_, keysSorted_of_sortedK _ (typeIndex_sorted items), ?_, ?_⟩
  · obtain ⟨item, _, hentry⟩ := typeIndex_mem hkv
    exact typeEntry_key hentry
  · simp only [enumConstsOk, List.all_eq_true]
    intro kv hkv
    obtain ⟨item, hitem, hentry⟩ := typeIndex_mem hkv
    cases item <;> cases hentry <;> try rfl
    simp only [List.all_eq_true, decide_eq_true_eq]
    exact fun v hv => hcg _ (constEntries_enum_mem hitem hv)
  · simp only [constsWellFormed, List.all_eq_true]
    rintro ⟨k, c⟩ hkv
    cases c with
    | constValue t => rfl
    | enumValue e v =>
      obtain ⟨rfl, en, hen, rfl, var, hvar, hvn⟩ := constEntries_enum_inv ((hcm _).mp hkv)
      have hidx := typeIndex_complete hd (kv := (en.name, .enum en)) (List.mem_filterMap.mpr ⟨_, hen, rfl⟩)
      simp only [beq_self_eq_true, Bool.true_and, hidx, List.any_eq_true, beq_iff_eq]
      exact ⟨var, hvar, hvn⟩

theorem any_or_any {α} (p q : α → Bool) (l : List α) : (l.any p || l.any q) = l.any (fun x => p x || q x) := by
  induction l with
  | nil => rfl
  | cons x xs ih =>
    rw [List.any_cons, List.any_cons, List.any_cons, ← ih]
    cases p x <;> cases q x <;> simp

theorem GItem.hit_mk_eq_any (a : Ast) (name : String) (ts : List ArrayType) :
    (GItem.mk name (ts.any (·.unwrapArray.isOpaque)) (refsOf ts)).hit a.generics =
      ts.any fun t => t.unwrapArray.isOpaque || a.targetGeneric t.unwrapArray := by
  rw [GItem.hit, refsOf, List.any_filterMap, any_or_any]
  congr 1
  funext t
  cases t.unwrapArray <;> rfl

theorem isGeneric_eq_hit {items : List Item} {a : Ast} (ha : Ast.ofItems items = .ok a)
    (hnd : (gnames (items.filterMap gitemOf)).Nodup) {item : Item} (hi : item ∈ items) {g : GItem}
    (hg : gitemOf item = some g) : a.isGeneric g.name = g.hit a.generics := by
  obtain ⟨cs, _, rfl⟩ := Ast.ofItems_eq_ok.mp ha
  have := mem_genericIndexOf_iff_hit _ hnd g (List.mem_filterMap.mpr ⟨item, hi, hg⟩)
  rw [Bool.eq_iff_iff]
  simpa [Ast.isGeneric, GenericIndex.new] using this

theorem identRefs_any_eq_targetGeneric (a : Ast) (b : BasicType) :
    b.identRefs.any (fun r => a.generics.contains r) = a.targetGeneric b := by
  cases b with
  | ident i => simp [BasicType.identRefs, Ast.targetGeneric, Ast.isGeneric]
  | _ => rfl

end Fx
