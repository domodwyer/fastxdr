/-
  Fx.Lemmas.Limits — what a declared maximum does, for all inputs: against the same decoders with every `Some(max)` replaced by
  `None` (`Plans.eraseMax`), a decoder behaves identically (value, cursor, error, log) or returns `Err(InvalidLength)`
  (`eval_lim`, quoted as `C05_limits_only_reject`).  The argument is that of Lemmas/Fuel (two runs, equal unless the first stops
  with an outcome `bind` passes on).
-/
import Fx.Lemmas.EvalBasics
namespace Fx

def FieldDec.eraseMax : FieldDec → FieldDec
  | .varBytes _ => .varBytes none
  | .varString _ => .varString none
  | .varArr ty g _ => .varArr ty g none
  | fd => fd

def StructFieldDec.eraseMax : StructFieldDec → StructFieldDec
  | .plain n fd => .plain n fd.eraseMax
  | f => f

def Arm.eraseMax (a : Arm) : Arm := { a with payload := a.payload.map FieldDec.eraseMax }

def Tail.eraseMax : Tail → Tail
  | .defaultData fd => .defaultData fd.eraseMax
  | t => t

def ImplBody.eraseMax : ImplBody → ImplBody
  | .struct fs => .struct (fs.map StructFieldDec.eraseMax)
  | .union u => .union { u with arms := u.arms.map Arm.eraseMax, tail := u.tail.eraseMax }
  | .enum arms => .enum arms
  | .typedef fd => .typedef fd.eraseMax

def Impl.eraseMax (i : Impl) : Impl := { i with body := i.body.eraseMax }

def Plans.eraseMax (p : Plans) : Plans := ⟨p.impls.map Impl.eraseMax, p.sizes⟩

theorem Plans.findImpl_eraseMax (p : Plans) (n : String) : p.eraseMax.findImpl n = (p.findImpl n).map Impl.eraseMax :=
  List.find?_map ..

mutual
theorem wsVal_sizes (p q : Plans) (h : q.sizes = p.sizes) : ∀ (v : Val), wsVal q v = wsVal p v
  | .bytes off bs => by simp [wsVal]
  | .vec xs => by simp only [wsVal, wsSum_sizes p q h xs]
  | .arr xs => by simp only [wsVal, wsSum_sizes p q h xs]
  | .some v => by simp only [wsVal, wsVal_sizes p q h v]
  | .struct n fn fs => by
    simp only [wsVal, Plans.findSize, h]
    cases hfs : p.sizes.find? (·.name == n) with
    | none => rfl
    | some si =>
      obtain ⟨a, b, body⟩ := si
      cases body with
      | struct sfs => simp only [wsFields_sizes p q h fs sfs]
      | union _ => rfl
      | enum => rfl
      | typedef _ _ => rfl
  | .tuple t x v => by simp only [wsVal, Plans.findSize, h, wsVal_sizes p q h v]
  | .newtype n v => by simp only [wsVal, Plans.findSize, h, wsVal_sizes p q h v]
  | .u32 _ => rfl | .u64 _ => rfl | .i32 _ => rfl | .i64 _ => rfl
  | .f32 _ => rfl | .f64 _ => rfl | .bool _ => rfl | .str _ => rfl
  | .none => rfl | .unit _ _ => rfl | .cenum _ _ => rfl
theorem wsSum_sizes (p q : Plans) (h : q.sizes = p.sizes) : ∀ (vs : Vals), wsSum q vs = wsSum p vs
  | .nil => rfl
  | .cons v vs => by simp only [wsSum, wsVal_sizes p q h v, wsSum_sizes p q h vs]
theorem wsFields_sizes (p q : Plans) (h : q.sizes = p.sizes) : ∀ (vs : Vals) (sfs : List SizeField), wsFields q sfs vs = wsFields p sfs vs
  | .nil, sfs => by cases sfs <;> simp [wsFields]
  | .cons v vs, [] => by simp only [wsFields, wsVal_sizes p q h v, wsFields_sizes p q h vs []]
  | .cons v vs, f :: rest => by simp only [wsFields, wsVal_sizes p q h v, wsFields_sizes p q h vs rest]
end

theorem wsVal_eraseMax (p : Plans) : wsVal p.eraseMax = wsVal p := funext (wsVal_sizes p p.eraseMax rfl)

def Res.LimRel {α} (r r' : Res α) : Prop := r = r' ∨ ∃ l, r = .err .invalidLength l

theorem Res.LimRel.refl {α} {r : Res α} : r.LimRel r := Or.inl rfl

theorem Res.LimRel.bind {α β} {r r' : Res α} {k k' : α → Cur → Res β} (h : r.LimRel r') (hk : ∀ v c, (k v c).LimRel (k' v c)) :
    (r.bind k).LimRel (r'.bind k') := by
  rcases h with rfl | ⟨l, rfl⟩
  · cases r with
    | ok v c => exact hk v c
    | _ => exact .refl
  · exact Or.inr ⟨l, rfl⟩

theorem readVariableBytes_lim (m : Option Nat) (c : Cur) : (readVariableBytes m c).LimRel (readVariableBytes none c) := by
  unfold readVariableBytes
  refine .bind .refl (fun n c1 => ?_)
  cases h : overLimit m n with
  | true => exact Or.inr ⟨c1.log, by simp⟩
  | false => simp only [overLimit]; exact Or.inl (by simp)

theorem readString_lim (m : Option Nat) (c : Cur) : (readString m c).LimRel (readString none c) := by
  unfold readString
  exact .bind (readVariableBytes_lim m c) (fun _ _ => .refl)

theorem arrLoop_lim (dec dec' : Cur → Res Val) (ws : Val → Nat) (hd : ∀ c, (dec c).LimRel (dec' c)) (k : Nat) :
    ∀ (c : Cur) (sum : Nat) (acc : Vals), (arrLoop dec ws k c sum acc).LimRel (arrLoop dec' ws k c sum acc) := by
  induction k with
  | zero => exact fun _ _ _ => .refl
  | succ k ih =>
    intro c sum acc
    rw [arrLoop_succ, arrLoop_succ]
    refine .bind (hd c) fun t ct => ?_
    split
    · exact .refl
    · exact ih _ _ _

theorem readVariableArray_lim {dec dec' : Cur → Res Val} {ws : Val → Nat} (m : Option Nat) (hd : ∀ c, (dec c).LimRel (dec' c))
    (c : Cur) :
    (readVariableArray dec ws m c).LimRel (readVariableArray dec' ws none c) := by
  unfold readVariableArray
  refine .bind .refl (fun n c1 => ?_)
  cases h : overLimit m n with
  | true => exact Or.inr ⟨c1.log, by simp⟩
  | false =>
    simp only [overLimit, Bool.false_eq_true, if_false]
    exact .bind (arrLoop_lim dec dec' ws hd n _ 0 .nil) (fun _ _ => .refl)

theorem evalOpt_lim {eI eI' : Cur → Res Val} (h : ∀ c, (eI c).LimRel (eI' c)) (c : Cur) :
    (evalOpt eI c).LimRel (evalOpt eI' c) := by
  refine .bind .refl fun m c1 => ?_
  split
  · exact .refl
  · split
    · exact .bind (h c1) fun _ _ => .refl
    · exact .refl

theorem selectArm_eraseMax (a : Ast) (d : Val) : ∀ (arms : List Arm),
    selectArm a d (arms.map Arm.eraseMax) = (selectArm a d arms).map Arm.eraseMax
  | [] => rfl
  | arm :: rest => by
    simp only [List.map_cons, selectArm]
    have : (Arm.eraseMax arm).pat = arm.pat := rfl
    rw [this]
    split
    · rfl
    · exact selectArm_eraseMax a d rest

theorem fieldNameOf_eraseMax (f : StructFieldDec) : fieldNameOf f.eraseMax = fieldNameOf f := by
  cases f <;> rfl

theorem eval_lim (a : Ast) (p : Plans) (fuel : Nat) :
    Evals (fun name => ∀ c, (evalImpl a p fuel name c).LimRel (evalImpl a p.eraseMax fuel name c))
      (fun b => ∀ c, (evalBasic a p fuel b c).LimRel (evalBasic a p.eraseMax fuel b c))
      (fun fd => ∀ c, (evalField a p fuel fd c).LimRel (evalField a p.eraseMax fuel fd.eraseMax c))
      (fun k b => ∀ c, (evalRepeat a p fuel k b c).LimRel (evalRepeat a p.eraseMax fuel k b c))
      (fun fs => ∀ c, (evalFields a p fuel fs c).LimRel (evalFields a p.eraseMax fuel (fs.map StructFieldDec.eraseMax) c)) := by
  induction fuel with
  | zero => exact ⟨fun _ _ => .refl, fun _ _ => .refl, fun _ _ => .refl, fun _ _ _ => .refl, fun _ _ => .refl⟩
  | succ f ih =>
    obtain ⟨ihI, ihB, ihF, ihR, ihFs⟩ := ih
    refine ⟨fun name c => ?_, fun b c => ?_, fun fd c => ?_, fun k b c => ?_, fun fs c => ?_⟩
    · cases hfi : p.findImpl name with
      | none =>
        rw [evalImpl_none hfi, evalImpl_none (by rw [Plans.findImpl_eraseMax, hfi]; rfl)]
        exact .refl
      | some i =>
        have hfi' : p.eraseMax.findImpl name = some i.eraseMax := by
          rw [Plans.findImpl_eraseMax, hfi]
          rfl
        have hb' : ∀ {b}, i.body = b → i.eraseMax.body = b.eraseMax := fun h => congrArg ImplBody.eraseMax h
        cases hb : i.body with
        | struct fs =>
          rw [evalImpl_struct hfi hb, evalImpl_struct hfi' (hb' hb)]
          refine .bind (ihFs fs c) (fun vs c' => ?_)
          have : (fs.map StructFieldDec.eraseMax).map fieldNameOf = fs.map fieldNameOf := by
            simp only [List.map_map]
            exact List.map_congr_left (fun x _ => fieldNameOf_eraseMax x)
          rw [this]
          exact .refl
        | union u =>
          rw [evalImpl_union hfi hb, evalImpl_union hfi' (hb' hb)]
          refine .bind (ihB u.disc c) (fun d c1 => ?_)
          simp only [evalArms]
          rw [selectArm_eraseMax]
          cases hsel : selectArm a d u.arms with
          | some arm =>
            simp only [Option.map_some, Arm.eraseMax]
            cases hpl : arm.payload with
            | none => exact .refl
            | some fd =>
              simp only [Option.map_some]
              exact .bind (ihF fd c1) (fun _ _ => .refl)
          | none =>
            simp only [Option.map_none]
            cases htl : u.tail with
            | defaultData fd =>
              simp only [Tail.eraseMax]
              exact .bind (ihF fd c1) (fun _ _ => .refl)
            | errUnknown => exact .refl
            | none => exact .refl
        | enum arms =>
          rw [evalImpl_enum hfi hb, evalImpl_enum hfi' (hb' hb)]
          exact .refl
        | typedef fd =>
          rw [evalImpl_typedef hfi hb, evalImpl_typedef hfi' (hb' hb)]
          exact .bind (ihF fd c) (fun _ _ => .refl)
    · cases b with
      | tryFrom n => exact ihI n c
      | _ => exact .refl
    · cases fd with
      | one b => exact ihB b c
      | fixedBytes n => exact .refl
      | fixedArr n b => exact .bind (ihR n b c) (fun _ _ => .refl)
      | varBytes m => exact readVariableBytes_lim m c
      | varString m => exact readString_lim m c
      | varArr ty g m =>
        simp only [evalField, FieldDec.eraseMax, wsVal_eraseMax]
        exact readVariableArray_lim m (ihI ty) c
    · cases k with
      | zero => exact .refl
      | succ k => exact .bind (ihB b c) fun v c1 => .bind (ihR k b c1) (fun _ _ => .refl)
    · cases fs with
      | nil => exact .refl
      | cons fld rest =>
        rw [List.map_cons, evalFields_cons, evalFields_cons]
        refine .bind ?_ (fun v c' => .bind (ihFs rest c') (fun _ _ => .refl))
        cases fld with
        | plain nm fd => exact ihF fd c
        | optional nm ty => exact evalOpt_lim (ihI ty) c

end Fx
