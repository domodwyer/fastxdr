/-
  Fx.Lemmas.WalkEq — `walk` on a token of each rule, one step (the children stay folded); `walkAll` as `mapOut walk`.
-/
import Fx.Lemmas.Out
namespace Fx
open Peg

-- the equation lemmas of `walk`, once (as for `eval` in PegEval)
attribute [local simp] walk

section
variable (t : List Char) (cs : List Pair)

theorem walk_item : walk (.mk "item" t cs) = (walkAll cs).bind fun ns => .ok (.root ns) := by
  rw [walk]

theorem walk_typedef :
    walk (.mk "typedef" t cs) = (walkAll cs).bind fun ns => (Typedef.new ns).bind fun x => .ok (.typedef x) := by
  rw [walk]

theorem walk_constant : walk (.mk "constant" t cs) = (walkAll cs).bind fun ns => .ok (.constant ns) := by
  rw [walk]

theorem walk_ident : walk (.mk "ident" t cs) = .ok (.type (BasicType.ofStr (String.ofList t))) := by
  rw [walk]

theorem walk_ident_const : walk (.mk "ident_const" t cs) = .ok (.type (BasicType.ofStr (String.ofList t))) := by
  rw [walk]

theorem walk_ident_value : walk (.mk "ident_value" t cs) = .ok (.type (BasicType.ofStr (String.ofList t))) := by
  rw [walk]

theorem walk_enum_type :
    walk (.mk "enum_type" t cs) = (walkAll cs).bind fun ns => (Enum.new ns).bind fun x => .ok (.enum x) := by
  rw [walk]

theorem walk_enum_variant : walk (.mk "enum_variant" t cs) = (walkAll cs).bind fun ns => .ok (.enumVariant ns) := by
  rw [walk]

theorem walk_array_variable : walk (.mk "array_variable" t cs) = .ok (.arrayVariable (innerStr cs)) := by
  rw [walk]

theorem walk_array_fixed : walk (.mk "array_fixed" t cs) = .ok (.arrayFixed (innerStr cs)) := by
  rw [walk]

theorem walk_struct_type :
    walk (.mk "struct_type" t cs) = (walkAll cs).bind fun ns => (Struct.new ns).bind fun x => .ok (.struct x) := by
  rw [walk]

theorem walk_struct_data_field :
    walk (.mk "struct_data_field" t cs) = (walkAll cs).bind fun ns => .ok (.structDataField ns) := by
  rw [walk]

theorem walk_union_data_field :
    walk (.mk "union_data_field" t cs) = (walkAll cs).bind fun ns => .ok (.unionDataField ns) := by
  rw [walk]

theorem walk_union : walk (.mk "union" t cs) = (walkAll cs).bind fun ns => (Union.new ns).bind fun x => .ok (.union x) := by
  rw [walk]

theorem walk_union_case : walk (.mk "union_case" t cs) = (walkAll cs).bind fun ns => .ok (.unionCase ns) := by
  rw [walk]

theorem walk_union_default : walk (.mk "union_default" t cs) = (walkAll cs).bind fun ns => .ok (.unionDefault ns) := by
  rw [walk]

theorem walk_union_void : walk (.mk "union_void" t cs) = .ok .unionVoid := by
  rw [walk]

theorem walk_option : walk (.mk "option" t cs) = (walkAll cs).bind fun ns => .ok (.option ns) := by
  rw [walk]

theorem walk_basic_type : walk (.mk "basic_type" t cs) = .ok (.type (BasicType.ofStr (String.ofList t))) := by
  rw [walk]

theorem walk_EOI : walk (.mk "EOI" t cs) = .ok .eof := by
  rw [walk]
end

theorem walkAll_eq_mapOut : ∀ (ps : List Pair), walkAll ps = mapOut walk ps
  | [] => by rw [walkAll, mapOut]
  | p :: ps => by rw [walkAll, mapOut, walkAll_eq_mapOut ps]

theorem walkAll_nil : walkAll [] = .ok [] := by
  rw [walkAll]

theorem walkAll_single (p : Pair) : walkAll [p] = (walk p).bind fun n => .ok [n] := by
  simp only [walkAll, Out.bind_ok]

theorem walkAll_append (t1 t2 : List Pair) :
    walkAll (t1 ++ t2) = (walkAll t1).bind fun n1 => (walkAll t2).bind fun n2 => .ok (n1 ++ n2) := by
  simp only [walkAll_eq_mapOut, mapOut_append]

theorem walkAll_cons_ok {p : Pair} {ps : List Pair} {n : Node} {ns : List Node} (h1 : walk p = .ok n) (h2 : walkAll ps = .ok ns) :
    walkAll (p :: ps) = .ok (n :: ns) := by
  simp only [walkAll, h1, h2, Out.bind_ok]

end Fx
