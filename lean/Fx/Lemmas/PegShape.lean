/-
  Fx.Lemmas.PegShape — `Shape g atomic e ts`: `ts` is a token list the expression `e` can produce; every accepted parse has one.
-/
import Fx.Lemmas.PegEval
namespace Fx.Peg

inductive Shape (g : Grammar) : Bool → Expr → List Pair → Prop
  | str (a t) : Shape g a (.str t) []
  | any (a) : Shape g a .any []
  | soi (a) : Shape g a .soi []
  | digit (a) : Shape g a .digit []
  | alnum (a) : Shape g a .alnum []
  | newline (a) : Shape g a .newline []
  | eoiAtomic : Shape g true .eoi []
  | eoi : Shape g false .eoi [Pair.mk "EOI" [] []]
  | not (a e) : Shape g a (.not e) []
  | optNone (a e) : Shape g a (.opt e) []
  | optSome {a e ts} : Shape g a e ts → Shape g a (.opt e) ts
  | altL {a e1 e2 ts} : Shape g a e1 ts → Shape g a (.alt e1 e2) ts
  | altR {a e1 e2 ts} : Shape g a e2 ts → Shape g a (.alt e1 e2) ts
  | seq {a e1 e2 t1 t2} : Shape g a e1 t1 → Shape g a e2 t2 → Shape g a (.seq e1 e2) (t1 ++ t2)
  | starNil (a e) : Shape g a (.star e) []
  | starCons {a e t1 t2} : Shape g a e t1 → Shape g a (.star e) t2 → Shape g a (.star e) (t1 ++ t2)
  | plus {a e ts} : Shape g a (.seq e (.star e)) ts → Shape g a (.plus e) ts
  | refSkip {a n} : (n == "WHITESPACE" || n == "COMMENT") = true → Shape g a (.ref n) []
  | refSilent {a n r ts} : g.find n = some r → (n == "WHITESPACE" || n == "COMMENT") = false → r.ty = .silent →
      Shape g a r.body ts → Shape g a (.ref n) ts
  | refInAtomic {n} : Shape g true (.ref n) []
  | refNormal {n r txt ts} : g.find n = some r → (n == "WHITESPACE" || n == "COMMENT") = false → r.ty = .normal →
      Shape g false r.body ts → Shape g false (.ref n) [Pair.mk n txt ts]
  | refAtomic {n r txt} : g.find n = some r → (n == "WHITESPACE" || n == "COMMENT") = false → r.ty = .atomic →
      Shape g false (.ref n) [Pair.mk n txt []]

def PRNoTok : PR → Prop
  | .ok _ ts => ts = []
  | _ => True

theorem PRNoTok_eq : PRNoTok = PR.Sat fun _ ts => ts = [] := rfl

theorem shape_of_noTok_atomic {g : Grammar} : ∀ (e : Expr), Shape g true e [] := by
  intro e
  induction e with
  | str t => exact .str _ _
  | any => exact .any _
  | soi => exact .soi _
  | eoi => exact .eoiAtomic
  | digit => exact .digit _
  | alnum => exact .alnum _
  | newline => exact .newline _
  | ref n => exact .refInAtomic
  | seq a b iha ihb => exact .seq (t1 := []) (t2 := []) iha ihb
  | alt a b iha _ => exact .altL iha
  | star e _ => exact .starNil _ _
  | plus e ih => exact .plus (.seq (t1 := []) (t2 := []) ih (.starNil _ _))
  | opt e _ => exact .optNone _ _
  | not e _ => exact .not _ _

theorem Shape.atomic_nil {g : Grammar} {a : Bool} {e : Expr} {ts : List Pair} (h : Shape g a e ts) : a = true → ts = [] := by
  induction h with
  | eoi | refNormal | refAtomic =>
    intro h
    cases h
  | seq _ _ ih1 ih2 | starCons _ _ ih1 ih2 =>
    intro h
    rw [ih1 h, ih2 h]
    rfl
  | optSome _ ih | altL _ ih | altR _ ih | plus _ ih | refSilent _ _ _ _ ih => exact ih
  | _ =>
    intro _
    rfl

/-- `se` stands for `.star e` so that the induction on the derivation goes through (its index must be a variable) -/
theorem Shape.star_snoc {g : Grammar} {a : Bool} {e : Expr} {t : List Pair} (ht : Shape g a e t) :
    ∀ {se acc}, Shape g a se acc → se = .star e → Shape g a (.star e) (acc ++ t) := by
  intro se acc h
  induction h with
  | starNil =>
    intro he
    cases he
    simpa using Shape.starCons ht (.starNil _ _)
  | starCons h1 _ _ ih2 =>
    intro he
    cases he
    rw [List.append_assoc]
    exact .starCons h1 (ih2 ht rfl)
  | _ =>
    intro he
    cases he

theorem shape_all (g : Grammar) (f : Nat) :
    (∀ a e s, (eval g f a e s).Sat fun _ ts => Shape g a e ts) ∧
    (∀ a e s acc, Shape g a (.star e) acc → (repeatMore g f a e s acc).Sat fun _ ts => Shape g a (.star e) ts) ∧
    (∀ a n s, (evalRule g f a n s).Sat fun _ ts => Shape g a (.ref n) ts) := by
  induction f with
  | zero =>
    simp only [eval_zero, repeatMore_zero, evalRule_zero]
    exact ⟨fun _ _ _ => trivial, fun _ _ _ _ _ => trivial, fun _ _ _ => trivial⟩
  | succ f ih =>
    obtain ⟨ihE, ihR, ihU⟩ := ih
    refine ⟨fun a e s => ?_, fun a e s acc hacc => ?_, fun a n s => ?_⟩
    · cases e with
      | str t =>
        rw [eval_str]
        exact ofOpt_sat fun _ _ => .str _ _
      | any =>
        rw [eval_any]
        cases s.rest with
        | nil => trivial
        | cons d ds => exact .any _
      | digit =>
        rw [eval_digit]
        cases s.rest with
        | nil => trivial
        | cons d ds => exact PR.Sat.ite (.digit _) trivial
      | alnum =>
        rw [eval_alnum]
        cases s.rest with
        | nil => trivial
        | cons d ds => exact PR.Sat.ite (.alnum _) trivial
      | soi =>
        rw [eval_soi]
        exact PR.Sat.ite (.soi _) trivial
      | eoi =>
        rw [eval_eoi]
        cases a with
        | false => exact PR.Sat.ite .eoi trivial
        | true => exact PR.Sat.ite .eoiAtomic trivial
      | newline =>
        rw [eval_newline]
        cases matchStr ['\n'] s with
        | some s' => exact .newline _
        | none =>
          cases matchStr ['\r', '\n'] s with
          | some s' => exact .newline _
          | none => exact ofOpt_sat fun _ _ => .newline _
      | ref n =>
        rw [eval_ref]
        exact ihU a n s
      | seq x y =>
        rw [eval_seq]
        exact (ihE a x s).on (fun s1 t1 h1 => (PR.Sat.triv _).on
          (fun s1' _ _ => (ihE a y s1').on (fun _ _ h2 => .seq h1 h2) trivial) trivial) trivial
      | alt x y =>
        rw [eval_alt]
        exact (ihE a x s).on (fun _ _ h => .altL h) ((ihE a y s).mono fun _ _ h => .altR h)
      | opt e =>
        rw [eval_opt]
        exact (ihE a e s).on (fun _ _ h => .optSome h) (.optNone _ _)
      | not e =>
        rw [eval_not]
        exact (ihE a e s).on (fun _ _ _ => trivial) (.not _ _)
      | star e =>
        rw [eval_star]
        exact (ihE a e s).on (fun s1 t1 h1 => ihR a e s1 t1 (h1.star_snoc (.starNil _ _) rfl)) (.starNil _ _)
      | plus e =>
        rw [eval_plus]
        exact (ihE a (.seq e (.star e)) s).mono fun _ _ h => .plus h
    · rw [repeatMore_succ]
      exact (PR.Sat.triv _).on (fun s' _ _ => (ihE a e s').on
        (fun s2 t2 h2 => PR.Sat.ite hacc (ihR a e s2 _ (h2.star_snoc hacc rfl))) hacc) hacc
    · rw [evalRule_succ]
      cases hfd : g.find n with
      | none => trivial
      | some r =>
        simp only
        split
        · rename_i hws
          exact (PR.Sat.triv _).on (fun _ _ _ => .refSkip hws) trivial
        · rename_i hws
          have hws : (n == "WHITESPACE" || n == "COMMENT") = false := by simpa using hws
          cases hty : r.ty with
          | silent => exact (ihE a r.body s).mono fun _ _ h => .refSilent hfd hws hty h
          | normal =>
            cases a with
            | true => exact (PR.Sat.triv _).on (fun _ _ _ => .refInAtomic) trivial
            | false => exact (ihE false r.body s).on (fun _ _ h => .refNormal hfd hws hty h) trivial
          | atomic =>
            cases a with
            | true => exact (PR.Sat.triv _).on (fun _ _ _ => .refInAtomic) trivial
            | false => exact (PR.Sat.triv _).on (fun _ _ _ => .refAtomic hfd hws hty) trivial

theorem evalRule_shape {g : Grammar} {f a n s s' ts} (h : evalRule g f a n s = .ok s' ts) : Shape g a (.ref n) ts := by
  have := (shape_all g f).2.2 a n s
  rwa [h] at this

theorem atomic_no_tokens (g : Grammar) (fuel : Nat) :
    (∀ e s, PRNoTok (eval g fuel true e s)) ∧
    (∀ e s acc, acc = [] → PRNoTok (repeatMore g fuel true e s acc)) ∧
    (∀ n s, PRNoTok (evalRule g fuel true n s)) := by
  simp only [PRNoTok_eq]
  obtain ⟨hE, hR, hU⟩ := shape_all g fuel
  exact ⟨fun e s => (hE true e s).mono fun _ _ h => h.atomic_nil rfl,
    fun e s acc hacc => (hR true e s acc (hacc ▸ .starNil _ _)).mono fun _ _ h => h.atomic_nil rfl,
    fun n s => (hU true n s).mono fun _ _ h => h.atomic_nil rfl⟩

end Fx.Peg
