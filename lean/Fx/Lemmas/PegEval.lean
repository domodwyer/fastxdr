/-
  Fx.Lemmas.PegEval — the interpreter of `Fx.Peg`, one level at a time.  Every `match` on a result in the five evaluators
  sends an accepted result to a continuation, a rejected one to a default, and passes `outOfFuel` on: `PR.on` names that
  shape, the equations state each evaluator at budget `f + 1` through it, and a property of results is carried through an
  equation by one lemma about `PR.on` (`PR.Sat.on` here, `Same.on` in PegFuel, `PR.on_ans` in PegTerm).
-/
import Fx.Peg
namespace Fx.Peg

def PR.on (r : PR) (k : St → List Pair → PR) (d : PR) : PR :=
  match r with
  | .ok s t => k s t
  | .fail => d
  | .outOfFuel => .outOfFuel

@[simp] theorem PR.on_ok (s : St) (t : List Pair) (k : St → List Pair → PR) (d : PR) : (PR.ok s t).on k d = k s t := rfl
@[simp] theorem PR.on_fail (k : St → List Pair → PR) (d : PR) : PR.fail.on k d = d := rfl

/-- pest's implicit skip inside `~`, `*`, `+` -/
def skipIf (g : Grammar) (f : Nat) (atomic : Bool) (s : St) : PR := if atomic then .ok s [] else skip g f s

@[simp] theorem skipIf_true (g : Grammar) (f : Nat) (s : St) : skipIf g f true s = .ok s [] := rfl
@[simp] theorem skipIf_false (g : Grammar) (f : Nat) (s : St) : skipIf g f false s = skip g f s := rfl

-- derives the equation lemmas of `eval` once, here: the proofs below, checked in parallel, would each derive them again
attribute [local simp] eval

section
variable (g : Grammar) (f : Nat) (atomic : Bool) (s : St)

theorem eval_zero (e : Expr) : eval g 0 atomic e s = .outOfFuel := by
  rw [eval]

theorem repeatMore_zero (e : Expr) (acc : List Pair) : repeatMore g 0 atomic e s acc = .outOfFuel := by
  rw [repeatMore]

theorem evalRule_zero (n : String) : evalRule g 0 atomic n s = .outOfFuel := by
  rw [evalRule]

theorem skipWs_zero : skipWs g 0 s = .outOfFuel := by
  rw [skipWs]

theorem skip_zero : skip g 0 s = .outOfFuel := by
  rw [skip]

theorem eval_str (t : List Char) : eval g (f + 1) atomic (.str t) s = ofOpt (matchStr t s) := by
  rw [eval]

theorem eval_any : eval g (f + 1) atomic .any s =
    match s.rest with
    | _ :: ds => .ok ⟨s.pos + 1, ds⟩ []
    | [] => .fail := by
  rw [eval]
  rfl

theorem eval_soi : eval g (f + 1) atomic .soi s = if s.pos = 0 then .ok s [] else .fail := by
  rw [eval]

theorem eval_eoi : eval g (f + 1) atomic .eoi s =
    if s.rest.isEmpty then (if atomic then .ok s [] else .ok s [Pair.mk "EOI" [] []]) else .fail := by
  rw [eval]

theorem eval_digit : eval g (f + 1) atomic .digit s =
    match s.rest with
    | d :: ds => if isAsciiDigit d then .ok ⟨s.pos + 1, ds⟩ [] else .fail
    | [] => .fail := by
  rw [eval]
  rfl

theorem eval_alnum : eval g (f + 1) atomic .alnum s =
    match s.rest with
    | d :: ds => if isAsciiAlnum d then .ok ⟨s.pos + 1, ds⟩ [] else .fail
    | [] => .fail := by
  rw [eval]
  rfl

theorem eval_newline : eval g (f + 1) atomic .newline s =
    match matchStr ['\n'] s with
    | some s' => .ok s' []
    | none =>
      match matchStr ['\r', '\n'] s with
      | some s' => .ok s' []
      | none => ofOpt (matchStr ['\r'] s) := by
  rw [eval]
  rfl

theorem eval_ref (n : String) : eval g (f + 1) atomic (.ref n) s = evalRule g f atomic n s := by
  rw [eval]

theorem eval_seq (a b : Expr) : eval g (f + 1) atomic (.seq a b) s =
    (eval g f atomic a s).on (fun s1 t1 => (skipIf g f atomic s1).on (fun s1' _ =>
      (eval g f atomic b s1').on (fun s2 t2 => .ok s2 (t1 ++ t2)) .fail) .fail) .fail := by
  simp only [eval, skipIf]
  cases eval g f atomic a s with
  | fail => rfl
  | outOfFuel => rfl
  | ok s1 t1 =>
    simp only [PR.on_ok]
    cases (if atomic = true then PR.ok s1 [] else skip g f s1) with
    | fail => rfl
    | outOfFuel => rfl
    | ok s1' x =>
      simp only [PR.on_ok]
      cases eval g f atomic b s1' <;> rfl

theorem eval_alt (a b : Expr) : eval g (f + 1) atomic (.alt a b) s = (eval g f atomic a s).on .ok (eval g f atomic b s) := by
  simp only [eval]
  cases eval g f atomic a s <;> rfl

theorem eval_opt (e : Expr) : eval g (f + 1) atomic (.opt e) s = (eval g f atomic e s).on .ok (.ok s []) := by
  simp only [eval]
  cases eval g f atomic e s <;> rfl

theorem eval_not (e : Expr) : eval g (f + 1) atomic (.not e) s = (eval g f atomic e s).on (fun _ _ => .fail) (.ok s []) := by
  simp only [eval]
  rfl

theorem eval_star (e : Expr) : eval g (f + 1) atomic (.star e) s =
    (eval g f atomic e s).on (fun s1 t1 => repeatMore g f atomic e s1 t1) (.ok s []) := by
  simp only [eval]
  rfl

theorem eval_plus (e : Expr) : eval g (f + 1) atomic (.plus e) s = eval g f atomic (.seq e (.star e)) s := by
  simp only [eval]

theorem repeatMore_succ (e : Expr) (acc : List Pair) : repeatMore g (f + 1) atomic e s acc =
    (skipIf g f atomic s).on (fun s' _ => (eval g f atomic e s').on
      (fun s2 t2 => if s2.pos = s.pos then .ok s acc else repeatMore g f atomic e s2 (acc ++ t2)) (.ok s acc)) (.ok s acc) := by
  simp only [repeatMore]
  rfl

theorem evalRule_succ (n : String) : evalRule g (f + 1) atomic n s =
    match g.find n with
    | none => .fail
    | some r =>
      if n == "WHITESPACE" || n == "COMMENT" then (eval g f true r.body s).on (fun s' _ => .ok s' []) .fail
      else match r.ty with
      | .silent => eval g f atomic r.body s
      | .normal =>
        (eval g f atomic r.body s).on (fun s' ts => if atomic then .ok s' [] else .ok s' [Pair.mk n (consumed s s') ts]) .fail
      | .atomic =>
        (eval g f true r.body s).on (fun s' _ => if atomic then .ok s' [] else .ok s' [Pair.mk n (consumed s s') []]) .fail := by
  simp only [evalRule]
  cases g.find n with
  | none => rfl
  | some r =>
    simp only
    split
    · cases eval g f true r.body s <;> rfl
    · cases r.ty with
      | silent => rfl
      | normal =>
        simp only
        cases eval g f atomic r.body s <;> rfl
      | atomic =>
        simp only
        cases eval g f true r.body s <;> rfl

theorem skipWs_succ : skipWs g (f + 1) s =
    (evalRule g f true "WHITESPACE" s).on (fun s' _ => if s'.pos = s.pos then .ok s [] else skipWs g f s') (.ok s []) := by
  simp only [skipWs]
  rfl

theorem skip_succ : skip g (f + 1) s =
    (skipWs g f s).on (fun s1 _ => (evalRule g f true "COMMENT" s1).on
      (fun s2 _ => if s2.pos = s1.pos then .ok s1 [] else skip g f s2) (.ok s1 [])) .fail := by
  simp only [skip]
  cases skipWs g f s <;> rfl

end

theorem Grammar.find_some {g : Grammar} {n : String} {rl : Rule} (h : g.find n = some rl) : rl ∈ g ∧ rl.name = n := by
  simp only [Grammar.find] at h
  exact ⟨List.mem_of_find?_eq_some h, by simpa using List.find?_some h⟩

theorem Grammar.find_cons_ne {r : Rule} {g : Grammar} {n : String} (h : r.name ≠ n) : Grammar.find (r :: g) n = Grammar.find g n := by
  simp [Grammar.find, h]

theorem Grammar.find_of_getElem? {g : Grammar} (hnd : (g.map (·.name)).Nodup) :
    ∀ {i : Nat} {r : Rule}, g[i]? = some r → g.find r.name = some r := by
  induction g with
  | nil =>
    intro i r h
    simp at h
  | cons r0 g ih =>
    intro i r h
    rw [List.map_cons, List.nodup_cons] at hnd
    cases i with
    | zero =>
      obtain rfl : r0 = r := by simpa using h
      simp [Grammar.find]
    | succ i =>
      have hr : g[i]? = some r := by simpa using h
      have hne : r0.name ≠ r.name := fun e => hnd.1 (e ▸ List.mem_map_of_mem (List.mem_of_getElem? hr))
      rw [Grammar.find_cons_ne hne]
      exact ih hnd.2 hr

def PR.Sat (Q : St → List Pair → Prop) : PR → Prop
  | .ok s t => Q s t
  | _ => True

theorem PR.Sat.on {r : PR} {k : St → List Pair → PR} {d : PR} {P Q : St → List Pair → Prop}
    (hr : r.Sat P) (hk : ∀ s t, P s t → (k s t).Sat Q) (hd : d.Sat Q) : (r.on k d).Sat Q := by
  cases r with
  | ok s t => exact hk s t hr
  | fail => exact hd
  | outOfFuel => trivial

theorem PR.Sat.triv (r : PR) : r.Sat fun _ _ => True := by
  cases r <;> trivial

theorem PR.Sat.mono {r : PR} {P Q : St → List Pair → Prop} (hr : r.Sat P) (h : ∀ s t, P s t → Q s t) : r.Sat Q := by
  cases r with
  | ok s t => exact h s t hr
  | fail => trivial
  | outOfFuel => trivial

theorem PR.Sat.ite {c : Prop} [Decidable c] {r r' : PR} {Q : St → List Pair → Prop} (h : r.Sat Q) (h' : r'.Sat Q) :
    (if c then r else r').Sat Q := by
  split <;> assumption

theorem ofOpt_sat {Q : St → List Pair → Prop} {o : Option St} (h : ∀ s', o = some s' → Q s' []) : (ofOpt o).Sat Q := by
  cases o with
  | none => trivial
  | some s' => exact h s' rfl

end Fx.Peg
