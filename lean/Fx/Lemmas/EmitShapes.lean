/-
  Fx.Lemmas.EmitShapes — what the decoder emitter writes for a supported declaration, in normal form: `FieldPlan` for a
  declarator, `StructFieldPlan` for a field, the same through `wrapAlias` for a typedef, `unionPlan` for a union — with what
  its labels denote (`matcherOf_int`) —, and the impl of each kind as its plan (`emitImpl_*_ok`).
-/
import Fx.Lemmas.SupportedFacts
namespace Fx

/-- `fd` is what `print_decode_array` writes for the declarator `at_`: seven shapes (length 0 is an empty literal, whatever the
    element) -/
inductive FieldPlan (a : Ast) : ArrayType → FieldDec → Prop
  | one {t} (hd : basicDeclared a t = true) : FieldPlan a (.none t) (.one (decodeBasicAlias t))
  | fixedBytes {sz n} (hn : resolveSize a sz = .ok n) : FieldPlan a (.fixed .opaque sz) (.fixedBytes n)
  | fixedArr0 {t sz} (ho : t ≠ .opaque) (hs : t ≠ .string) (hd : basicDeclared a t = true) (hn : resolveSize a sz = .ok 0) :
      FieldPlan a (.fixed t sz) (.fixedArr 0 (.prim .u32))
  | fixedArr {t sz n} (ho : t ≠ .opaque) (hs : t ≠ .string) (hd : basicDeclared a t = true) (hn : resolveSize a sz = .ok n)
      (h0 : n ≠ 0) : FieldPlan a (.fixed t sz) (.fixedArr n (decodeBasicAlias t))
  | varBytes {m lim} (hl : resolveOpt a m = .ok lim) : FieldPlan a (.variable .opaque m) (.varBytes lim)
  | varString {m lim} (hl : resolveOpt a m = .ok lim) : FieldPlan a (.variable .string m) (.varString lim)
  | varArr {c m lim} (hd : declared a c = true) (hl : resolveOpt a m = .ok lim) :
      FieldPlan a (.variable (.ident c) m) (.varArr c (a.isGeneric c) lim)

theorem decodeArray_alias_plan {a : Ast} (hs : NamesSafe a) {at_ : ArrayType} (hok : elemOk a at_ = true) {fd : FieldDec}
    (he : decodeArray a at_ .useAlias = .ok fd) : FieldPlan a at_ fd := by
  rcases at_ with t | ⟨t, sz⟩ | ⟨t, m⟩
  · simp only [decodeArray, decodeBasic_alias, G.bind_ok, G.ok.injEq] at he
    subst he
    exact .one hok
  · simp only [decodeArray, G.bind_eq_ok_iff] at he
    obtain ⟨n, hn, he⟩ := he
    by_cases ho : t = .opaque
    · subst ho
      cases he
      exact .fixedBytes hn
    · have hst : t ≠ .string := by
        rintro rfl
        cases hok
      have hd : basicDeclared a t = true := by
        cases t <;> first | exact hok | exact absurd rfl ho | exact absurd rfl hst
      rw [printFixed_alias a n ho hst, G.ok.injEq] at he
      subst he
      split
      · rename_i h0
        exact .fixedArr0 ho hst hd (h0 ▸ hn)
      · rename_i h0
        exact .fixedArr ho hst hd hn h0
  · simp only [decodeArray_variable, G.bind_eq_ok_iff] at he
    obtain ⟨lim, hl, he⟩ := he
    cases t with
    | «opaque» =>
      cases he
      exact .varBytes hl
    | string =>
      cases he
      exact .varString hl
    | ident c =>
      rw [printVariable_ident, hs c hok, G.ok.injEq] at he
      subst he
      exact .varArr hok hl
    | _ => cases hok

inductive StructFieldPlan (a : Ast) : StructField → StructFieldDec → Prop
  | optional {f n} (hopt : f.isOptional = true) (hfv : f.fieldValue = .none (.ident n)) (hd : declared a n = true) :
      StructFieldPlan a f (.optional f.fieldName n)
  | plain {f fd} (hopt : f.isOptional = false) (hdecl : declaratorOk a f.fieldValue = true) (hp : FieldPlan a f.fieldValue fd) :
      StructFieldPlan a f (.plain f.fieldName fd)

theorem emitStructField_plan {a : Ast} (hs : NamesSafe a) {f : StructField} (hf : fieldOk a f = true) {sfd : StructFieldDec}
    (he : emitStructField a f = .ok sfd) : StructFieldPlan a f sfd := by
  simp only [emitStructField] at he
  rcases (fieldOk_facts hf).2.2 with ⟨hopt, n, hfv, hd⟩ | ⟨hopt, hdecl⟩
  · rw [if_pos hopt, hfv, ArrayType.unwrapArray, hs n hd] at he
    cases he
    exact .optional hopt hfv hd
  · simp only [hopt, Bool.false_eq_true, if_false, G.bind_eq_ok_iff, G.ok.injEq] at he
    obtain ⟨fd, hfd, rfl⟩ := he
    exact .plain hopt hdecl (decodeArray_alias_plan hs (declaratorOk_iff.mp hdecl).1 hfd)

inductive StructFieldsPlan (a : Ast) : List StructField → List StructFieldDec → Prop
  | nil : StructFieldsPlan a [] []
  | cons {f sfd fs sfds} (h : StructFieldPlan a f sfd) (t : StructFieldsPlan a fs sfds) : StructFieldsPlan a (f :: fs) (sfd :: sfds)

theorem emitStructFields_plan {a : Ast} (hs : NamesSafe a) : ∀ {fields : List StructField} {fds : List StructFieldDec},
    fields.all (fieldOk a) = true → mapG (emitStructField a) fields = .ok fds → StructFieldsPlan a fields fds
  | [], _, _, he => by
    cases mapG_nil_ok.mp he
    exact .nil
  | f :: rest, _, hok, he => by
    obtain ⟨b, bs, hb, hbs, rfl⟩ := mapG_cons_ok.mp he
    simp only [List.all_cons, Bool.and_eq_true] at hok
    exact .cons (emitStructField_plan hs hok.1 hb) (emitStructFields_plan hs hok.2 hbs)

theorem safeName_eq_doc (n : String) (h1 : n ≠ "TRUE") (h2 : n ≠ "FALSE") : safeName n = docFieldName n := by
  simp only [safeName, docFieldName]
  split
  · rfl
  · simp [h1, h2]

theorem emit_field_names {a : Ast} {fields : List StructField} {fds : List StructFieldDec} (hok : fields.all (fieldOk a) = true)
    (hp : StructFieldsPlan a fields fds) : fds.map fieldNameOf = fields.map (fun f => docFieldName f.fieldName) := by
  induction hp with
  | nil => rfl
  | @cons f sfd fs sfds h _ ih =>
    simp only [List.all_cons, Bool.and_eq_true] at hok
    obtain ⟨h1, h2, _⟩ := fieldOk_facts hok.1
    rw [List.map_cons, List.map_cons, ih hok.2, ← safeName_eq_doc _ h1 h2]
    cases h <;> rfl

theorem typedef_decode_eq {a : Ast} (hs : NamesSafe a) (td : Typedef) (htd : typedefOk a td = true)
    (hself : a.getType td.alias.unwrapArray.asStr = some (.typedef td)) :
    decodeArray a td.alias .useTarget = decodeArray a (wrapAlias td) .useAlias := by
  obtain ⟨⟨al, hal, _⟩, hstr, hel, _⟩ := typedefOk_facts htd
  obtain ⟨target, alias⟩ := td
  simp only [hal, BasicType.asStr] at hself
  -- `.useTarget` resolves the alias' own name one level, which lands on the target
  have hdb : decodeBasic a (.ident al) .useTarget = decodeBasic a target .useAlias := by
    rw [decodeBasic_alias]
    simp only [decodeBasic, hself]
  have htt : a.typedefTarget al = some ⟨target, alias⟩ := by
    simp only [Ast.typedefTarget, hself]
  rcases alias with t | ⟨t, sz⟩ | ⟨t, m⟩ <;> cases hal
  · simp only [wrapAlias, decodeArray, hdb]
  · simp only [wrapAlias, decodeArray, printFixed, BasicType.asStr, htt, hdb]
  · simp only [wrapAlias, decodeArray_variable]
    congr 1
    funext lim
    have hsafe : (BasicType.ident al).asSafeString = al := hs al (declared_iff.mpr ⟨_, hself⟩)
    simp only [printVariable, hsafe, BasicType.asStr, htt, hself, AstType.display]
    -- a counted typedef is of `opaque` or of a declared name (`hel`)
    cases target with
    | «opaque» => rfl
    | ident c =>
      have hc : (BasicType.ident c).asSafeString = c := hs c hel
      simp only [BasicType.isOpaque, Bool.false_eq_true, if_false, hc]
    | string => exact absurd rfl hstr
    | _ => cases hel

/-- two deliberate copies: the evaluator's and the reference's -/
theorem parseIntLit_eq (s : String) : parseIntLit s = parseDecOrHex s := rfl

theorem labelValue_num {a : Ast} {l : String} (h1 : l ≠ "TRUE") (h2 : l ≠ "FALSE") {n : Nat} (hp : parseDecOrHex l = some n) :
    labelValue a l = some n := by
  simp [labelValue, h1, h2, hp]

theorem labelValue_const {a : Ast} {l : String} (h1 : l ≠ "TRUE") (h2 : l ≠ "FALSE") (hp : parseDecOrHex l = none) :
    labelValue a l = constLabelValue a l := by
  simp [labelValue, h1, h2, hp]

/-- `enumDisc` (the emitted guard `c == E::V as ty`) and `findEnumMember` (the reference) read the same declared value -/
theorem enum_const_value {a : Ast} (F : SFacts a) {l e : String} (hc : bget l a.constants = some (.enumValue e l)) :
    ∃ i : Int, 0 ≤ i ∧ enumDisc a e l = some i ∧ findEnumMember a l = some i.toNat := by
  obtain ⟨_, en, hen, var, hvar, hvarn⟩ := F.constsWF l e l hc
  cases hf : en.variants.find? (·.name == l) with
  | none => simpa [hvarn] using List.find?_eq_none.mp hf var hvar
  | some w =>
    obtain ⟨i, hwv, h0, _⟩ := (enumOk_facts (F.typeOk e _ hen)).2.2.1 w (List.mem_of_find?_eq_some hf)
    refine ⟨i, h0, ?_, ?_⟩
    · simp [enumDisc, enumOf, Ast.getType, hen, hf, hwv]
    · simp [findEnumMember, hc, hen, hf, enumMemberValue_numeric a hwv h0]

/-- an integer label is a numeral or a constant's name (literal pattern whose text parses to its value) or an enum member's name
    (guard on that member, whose declared value it is) -/
theorem matcherOf_int {a : Ast} (F : SFacts a) (swTy : BasicType) {l : String} {v : Nat} (hv : labelValue a l = some v)
    (h1 : l ≠ "TRUE") (h2 : l ≠ "FALSE") (hsn : safeName l = l) :
    (∃ t, matcherOf a swTy l = .lit t ∧ parseDecOrHex t = some v) ∨
    (∃ e, matcherOf a swTy l = .guard e l (switchCastType a swTy).asSafeString ∧ isEnumConst a l = true ∧
      enumDisc a e l = some (v : Int)) := by
  simp only [matcherOf, isEnumConst, Ast.getConst]
  cases hc : bget l a.constants with
  | none =>
    cases hp : parseDecOrHex l with
    | none =>
      rw [labelValue_const h1 h2 hp] at hv
      simp [constLabelValue, hc] at hv
    | some n =>
      rw [labelValue_num h1 h2 hp] at hv
      exact .inl ⟨l, congrArg Pat.lit hsn, hp.trans hv⟩
  | some c =>
    obtain ⟨hnum, _, _, hsafe⟩ := F.constNames l c hc
    rw [labelValue_const h1 h2 hnum] at hv
    simp only [constLabelValue, hc] at hv
    cases c with
    | constValue t => exact .inl ⟨t, congrArg Pat.lit (hsafe t rfl), hv⟩
    | enumValue e' v' =>
      obtain ⟨rfl, _⟩ := F.constsWF l e' v' hc
      obtain ⟨i, hi, hd, hm⟩ := enum_const_value F hc
      exact .inr ⟨e', rfl, rfl, by rw [hm] at hv; cases hv; rw [hd, Int.toNat_of_nonneg hi]⟩

/-- one entry per label of every case: the arms, the size arms and the variants are such lists -/
theorem mem_perLabel {β} {g : UnionCase → String → β} {cs : List UnionCase} {x : β} :
    x ∈ (cs.map fun c => c.caseValues.map (g c)).flatten ↔ ∃ c ∈ cs, ∃ l ∈ c.caseValues, x = g c l := by
  simp only [List.mem_flatten, List.mem_map]
  constructor
  · rintro ⟨_, ⟨c, hc, rfl⟩, h⟩
    obtain ⟨l, hl, rfl⟩ := List.mem_map.mp h
    exact ⟨c, hc, l, hl, rfl⟩
  · rintro ⟨c, hc, l, hl, rfl⟩
    exact ⟨_, ⟨c, hc, rfl⟩, List.mem_map.mpr ⟨l, hl, rfl⟩⟩

theorem any_perLabel {β} {g : UnionCase → String → β} {p : β → Bool} {q : UnionCase → Bool} {cs : List UnionCase}
    (hne : ∀ c ∈ cs, c.caseValues ≠ []) (hpq : ∀ c l, p (g c l) = q c) :
    (cs.map fun c => c.caseValues.map (g c)).flatten.any p = cs.any q := by
  rw [Bool.eq_iff_iff]
  simp only [List.any_eq_true, mem_perLabel]
  constructor
  · rintro ⟨_, ⟨c, hc, l, _, rfl⟩, h⟩
    exact ⟨c, hc, (hpq c l).symm.trans h⟩
  · rintro ⟨c, hc, h⟩
    obtain ⟨l, hl⟩ := List.exists_mem_of_ne_nil _ (hne c hc)
    exact ⟨_, ⟨c, hc, l, hl, rfl⟩, (hpq c l).trans h⟩

/-- the decode expression of a union arm `type name;` -/
def armDec (fv : ArrayType) : FieldDec := .one (decodeBasicAlias fv.unwrapArray)

theorem decodeArray_arm {a : Ast} {fv : ArrayType} (h : armTypeOk a fv = true) : decodeArray a fv .useAlias = .ok (armDec fv) := by
  obtain ⟨t, rfl, _, _⟩ := armTypeOk_iff.mp h
  simp only [decodeArray, decodeBasic_alias, G.bind_ok, armDec, ArrayType.unwrapArray]

def dataArms (a : Ast) (sw : BasicType) (cs : List UnionCase) : List Arm :=
  (cs.map fun c => c.caseValues.map fun l => ⟨matcherOf a sw l, l, some (armDec c.fieldValue)⟩).flatten

theorem mem_dataArms {a : Ast} {sw : BasicType} {cs : List UnionCase} {arm : Arm} :
    arm ∈ dataArms a sw cs ↔ ∃ c ∈ cs, ∃ l ∈ c.caseValues, arm = ⟨matcherOf a sw l, l, some (armDec c.fieldValue)⟩ :=
  mem_perLabel

def unionTail (u : Union) : Tail :=
  match u.default with
  | some d => .defaultData (armDec d.fieldValue)
  | none => if u.voidCases.contains "default" then .none else .errUnknown

/-- `emitUnion`'s result when every arm is `type name;` -/
def unionPlan (a : Ast) (u : Union) (disc : BasicDec) : UnionDec :=
  ⟨u.switch.varName, disc, dataArms a u.switch.varType u.cases ++ u.voidCases.map (emitVoid a u.switch.varType), unionTail u⟩

theorem emitUnion_plan {a : Ast} {u : Union} (hc : ∀ c ∈ u.cases, armTypeOk a c.fieldValue = true)
    (hd : ∀ d, u.default = some d → armTypeOk a d.fieldValue = true) {ud : UnionDec} (he : emitUnion a u = .ok ud) :
    ∃ disc, decodeBasic a u.switch.varType .useTarget = .ok disc ∧ ud = unionPlan a u disc := by
  have hcases : mapG (emitCase a u.switch.varType) u.cases = .ok (u.cases.map fun c =>
      c.caseValues.map fun l => ⟨matcherOf a u.switch.varType l, l, some (armDec c.fieldValue)⟩) :=
    mapG_eq_map fun c h => by simp only [emitCase, decodeArray_arm (hc c h), G.bind_ok]
  simp only [emitUnion, hcases, G.bind_ok, G.bind_eq_ok_iff, G.ok.injEq] at he
  obtain ⟨disc, hdisc, tail, htail, rfl⟩ := he
  refine ⟨disc, hdisc, ?_⟩
  simp only [unionPlan, dataArms, unionTail, UnionDec.mk.injEq, true_and]
  cases hdf : u.default with
  | none =>
    simp only [hdf, G.ok.injEq] at htail
    exact htail.symm
  | some d =>
    simp only [hdf, decodeArray_arm (hd d hdf), G.bind_ok, G.ok.injEq] at htail
    exact htail.symm

theorem disc_cases {a : Ast} {t : BasicType} {disc : BasicDec} (hk : discKind a t ≠ .unsupported)
    (he : decodeBasic a t .useTarget = .ok disc) :
    (discKind a t = .u32 ∧ disc = .prim .u32) ∨ (discKind a t = .i32 ∧ disc = .prim .i32) ∨
    (discKind a t = .bool ∧ disc = .prim .bool) ∨
    ∃ n e, discKind a t = .enum e ∧ disc = .tryFrom e.name ∧ t = .ident n ∧ bget n a.types = some (.enum e) := by
  cases t with
  | ident n =>
    simp only [decodeBasic, Ast.getType] at he
    simp only [discKind] at hk ⊢
    cases hg : bget n a.types with
    | none => simp [hg] at hk
    | some ty =>
      rw [hg] at he hk
      cases ty with
      | enum e =>
        cases he
        exact .inr (.inr (.inr ⟨n, e, rfl, rfl, rfl, hg⟩))
      | typedef td =>
        cases he
        obtain ⟨target, alias⟩ := td
        cases alias <;> cases target <;> first | exact absurd rfl hk | exact .inl ⟨rfl, rfl⟩ | exact .inr (.inl ⟨rfl, rfl⟩)
      | _ => exact absurd rfl hk
  | u32 =>
    cases he
    exact .inl ⟨rfl, rfl⟩
  | i32 =>
    cases he
    exact .inr (.inl ⟨rfl, rfl⟩)
  | bool =>
    cases he
    exact .inr (.inr (.inl ⟨rfl, rfl⟩))
  | _ => exact absurd rfl hk

theorem impl_of_mem {a : Ast} {m : Module} (hs : Supported a = true) (hg : generateModule a = .ok m) {i : Impl}
    (hi : i ∈ m.fromRefMut) :
    ∃ ty, bget i.name a.types = some ty ∧ i.name = ty.rustName ∧ typeOk a ty = true ∧ emitImpl a ty = .ok i := by
  obtain ⟨ty, hty, he⟩ := mapG_mem (generateModule_ok hg).2.2.1 i hi
  obtain ⟨kv, hkv, rfl⟩ := List.mem_map.mp hty
  obtain ⟨hb, hk, hok⟩ := (sfacts_of_supported hs).entry hkv
  rw [emitImpl_name he, ← hk]
  exact ⟨kv.2, hb, hk, hok, he⟩

theorem emitImpl_struct_ok {a : Ast} {s : Struct} {i : Impl} (hs : NamesSafe a) (hok : typeOk a (.struct s) = true)
    (he : emitImpl a (.struct s) = .ok i) : ∃ fds, StructFieldsPlan a s.fields fds ∧ i.body = .struct fds := by
  simp only [emitImpl, G.bind_eq_ok_iff, G.ok.injEq] at he
  obtain ⟨fds, hfds, rfl⟩ := he
  exact ⟨fds, emitStructFields_plan hs (typeOk_struct hok).2 hfds, rfl⟩

theorem emitImpl_union_ok {a : Ast} {u : Union} {i : Impl} (hu : unionOk a u = true) (he : emitImpl a (.union u) = .ok i) :
    ∃ disc, decodeBasic a u.switch.varType .useTarget = .ok disc ∧ i.body = .union (unionPlan a u disc) := by
  simp only [emitImpl, G.bind_eq_ok_iff, G.ok.injEq] at he
  obtain ⟨ud, hud, rfl⟩ := he
  obtain ⟨_, hc, hd, _, _⟩ := unionOk_facts hu
  obtain ⟨disc, hdisc, rfl⟩ := emitUnion_plan hc (fun d h => (hd d h).1) hud
  exact ⟨disc, hdisc, rfl⟩

theorem emitImpl_typedef_ok {a : Ast} {td : Typedef} {i : Impl} (hs : NamesSafe a) (htd : typedefOk a td = true)
    (hself : a.getType td.alias.unwrapArray.asStr = some (.typedef td)) (he : emitImpl a (.typedef td) = .ok i) :
    ∃ fd, FieldPlan a (wrapAlias td) fd ∧ i.body = .typedef fd := by
  simp only [emitImpl, G.bind_eq_ok_iff, G.ok.injEq] at he
  obtain ⟨fd, hfd, rfl⟩ := he
  rw [typedef_decode_eq hs td htd hself] at hfd
  exact ⟨fd, decodeArray_alias_plan hs (typedefOk_facts htd).2.2.1 hfd, rfl⟩

end Fx
