/-
  Fx.Lemmas.Enc — every RFC 4506 encoding is a whole number of words.
-/
import Fx.Xdr
import Fx.Lemmas.Runtime
namespace Fx

mutual
theorem XVal.enc_len_mod4 (x : XVal) : x.enc.length % 4 = 0 := by
  cases x with
  | str bs | varOpaque bs => simp [XVal.enc]; have := padLen_mod bs.length; omega
  | fixedOpaque bs => simp [XVal.enc]; exact padLen_mod bs.length
  | varArr xs => simp [XVal.enc]; have := XVals.enc_len_mod4 xs; omega
  | fixedArr xs | struct xs => simp [XVal.enc]; exact XVals.enc_len_mod4 xs
  | optSome v | union _ v => simp [XVal.enc]; have := XVal.enc_len_mod4 v; omega
  | alias v => simp [XVal.enc]; exact XVal.enc_len_mod4 v
  | _ => simp [XVal.enc]
theorem XVals.enc_len_mod4 (xs : XVals) : xs.enc.length % 4 = 0 := by
  cases xs with
  | nil => simp [XVals.enc]
  | cons v vs =>
    simp [XVals.enc]
    have := XVal.enc_len_mod4 v
    have := XVals.enc_len_mod4 vs
    omega
end

end Fx
