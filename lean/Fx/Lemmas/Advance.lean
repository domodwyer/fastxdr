/-
  Fx.Lemmas.Advance — a successful decode leaves the cursor in the same buffer, advanced by some k ≤ remaining.
-/
import Fx.Lemmas.EvalBasics
namespace Fx

def Adv (c c' : Cur) : Prop := ∃ k, k ≤ c.remaining ∧ c'.off = c.off + k ∧ c'.data = c.data.drop k

theorem Adv.refl (c : Cur) : Adv c c := ⟨0, Nat.zero_le _, by simp, by simp⟩

theorem Adv.trans {a b c : Cur} (h1 : Adv a b) (h2 : Adv b c) : Adv a c := by
  obtain ⟨k1, l1, o1, d1⟩ := h1
  obtain ⟨k2, l2, o2, d2⟩ := h2
  rw [Cur.remaining, d1, List.length_drop] at l2
  exact ⟨k1 + k2, Nat.add_le_of_le_sub' l1 l2, by rw [o2, o1, Nat.add_assoc], by rw [d2, d1, List.drop_drop]⟩

theorem Adv.addLog {a b : Cur} (h : Adv a b) (e : Ev) : Adv a (b.addLog e) := h

theorem Adv.stepped (c : Cur) {k : Nat} (h : k ≤ c.remaining) {l : List Ev} : Adv c (c.stepped k l) :=
  ⟨k, h, rfl, rfl⟩

theorem Adv.remaining_le {a b : Cur} (h : Adv a b) : b.remaining ≤ a.remaining := by
  obtain ⟨k, _, _, d⟩ := h
  simp [Cur.remaining, d]

def Advs {α} (f : Cur → Res α) : Prop := ∀ c v c', f c = .ok v c' → Adv c c'

theorem Advs.bind {α β} {f : Cur → Res α} {g : α → Cur → Res β} (hf : Advs f) (hg : ∀ v, Advs (g v)) :
    Advs fun c => (f c).bind g := fun c w c2 h => by
  obtain ⟨v, c1, h1, h2⟩ := Res.bind_eq_ok h
  exact (hf _ _ _ h1).trans (hg v _ _ _ h2)

theorem Advs.pure {α} (v : α) : Advs fun c => .ok v c := fun c _ _ h => by
  cases h
  exact Adv.refl c

/-- the `Box` of an optional link, the copy of a string -/
theorem Advs.logged {α} (v : α) (e : Ev) : Advs fun c => .ok v (c.addLog e) := fun c _ _ h => by
  cases h
  exact Adv.refl c

theorem Advs.fail {α} {r : Cur → Res α} (h : ∀ c v c', r c ≠ .ok v c') : Advs r := fun c v c' e => absurd e (h c v c')

theorem Advs.err {α} (e : Err) : Advs fun c => (.err e c.log : Res α) := Advs.fail (by simp)

theorem readRaw_adv {α} (k : Nat) (g : Nat → List Byte → α) : Advs (readRaw k g) := fun c _ _ h => by
  obtain ⟨rfl, l, _⟩ := readRaw_ok h
  exact ⟨k, l, rfl, rfl⟩

theorem Advs.closed : Closed @Advs := ⟨Advs.pure, Advs.err, Advs.bind, readRaw_adv⟩

theorem readers_adv : Readers @Advs := readers_closed Advs.closed

theorem readString_adv (m : Option Nat) : Advs (readString m) :=
  Advs.bind (readers_adv.vbytes m) fun _ => closed_ite (Advs.logged _ _) (Advs.fail (by simp))

theorem evalOpt_adv {eI : Cur → Res Val} (h : Advs eI) : Advs (evalOpt eI) :=
  evalOpt_closed Advs.closed (Advs.logged · .box) h

theorem Advs.vec {α} {f : Cur → Res α} (n : Nat) (hf : Advs f) : Advs fun c => f (c.addLog (.vec (min n c.remaining))) :=
  fun c => hf (c.addLog _)

theorem arrLoop_adv (dec : Cur → Res Val) (ws : Val → Nat) (k : Nat) :
    ∀ (sum : Nat) (acc : Vals), Advs fun c => arrLoop dec ws k c sum acc := by
  induction k with
  | zero =>
    intro sum acc c r c' h
    cases h
    exact Adv.refl c
  | succ k ih =>
    intro sum acc c r c' h
    obtain ⟨t, ct, _, hle, h2⟩ := arrLoop_succ_ok h
    exact (Adv.stepped c hle).trans (ih _ _ _ _ _ h2)

theorem eval_adv (a : Ast) (p : Plans) (fuel : Nat) : Evals.all @Advs a p fuel :=
  eval_closed { Advs.closed with
      oof := Advs.fail (by simp), panic := fun _ => Advs.fail (by simp), str := readString_adv, opt := evalOpt_adv,
      vec := Advs.vec } a p
    (loop := fun _ _ _ n => arrLoop_adv _ _ n 0 .nil) fuel

end Fx
