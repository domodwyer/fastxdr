/-
  Fx.Lemmas.EmitPlans — for every `Supported` Ast the emitted plans are well-formed (`Plans.Ok`) and their size impls match
  their decoders (`Plans.SizeExact'`).
-/
import Fx.Lemmas.EmitShapes
import Fx.Lemmas.NoPanic
import Fx.Lemmas.Consumed
namespace Fx

/-- what the per-declaration lemmas need to know about the plans `P` emitted for `a` -/
structure PlansFor (a : Ast) (P : Plans) : Prop where
  declared_has_impl : ∀ n, declared a n = true → (P.findImpl n).isSome = true
  declared_safe : ∀ n, declared a n = true → (BasicType.ident n).asSafeString = n
  enum_impl : ∀ n e, bget n a.types = some (.enum e) → e.name = n ∧ ∃ i arms, P.findImpl n = some i ∧ i.body = .enum arms

theorem resolveSize_ok_of_boundOk {a : Ast} {sz : ArraySize} (h : boundOk a sz = true) : ∃ n, resolveSize a sz = .ok n := by
  cases sz with
  | known n => exact ⟨n, rfl⟩
  | constant c =>
    obtain ⟨t, n, ht, hn⟩ := boundOk_constant h
    exact ⟨n, by simp only [resolveSize, Ast.getConst, ht, ConstantType.display, hn]⟩

theorem basicAlias_resolved {a : Ast} {P : Plans} (hP : PlansFor a P) {t : BasicType} (hd : basicDeclared a t = true) :
    (decodeBasicAlias t).resolved P = true := by
  cases t <;> first | rfl | exact hP.declared_has_impl _ hd

theorem FieldPlan.resolved {a : Ast} {P : Plans} (hP : PlansFor a P) {at_ : ArrayType} {fd : FieldDec} (h : FieldPlan a at_ fd) :
    fd.resolved P = true := by
  cases h with
  | one hd => exact basicAlias_resolved hP hd
  | fixedArr ho hs hd hn h0 => exact basicAlias_resolved hP hd
  | varArr hd hl => exact hP.declared_has_impl _ hd
  | _ => rfl

/-- the typedef branch of `implSizeExact` -/
def typedefSizeMatches (fd : FieldDec) (opq plus4 : Bool) : Bool :=
  fieldShapeOk fd &&
  (match fd with
   | .varBytes _ => opq && plus4
   | .one .opaque => opq && plus4
   | .fixedBytes _ => opq && !plus4
   | _ => !opq)

/-- the size emitter's `pad`/`+4` flags are the ones the decode expression needs -/
theorem FieldPlan.sizeTypedef {a : Ast} {at_ : ArrayType} {fd : FieldDec} (h : FieldPlan a at_ fd) :
    typedefSizeMatches fd at_.unwrapArray.isOpaque (at_.unwrapArray.isOpaque && !isFixed at_) = true := by
  cases h with
  | @one t hd => cases t <;> rfl
  | @fixedArr0 t _ ho hs hd hn => cases t <;> first | rfl | exact absurd rfl ho
  | @fixedArr t _ _ ho hs hd hn h0 => cases t <;> first | rfl | exact absurd rfl ho | exact absurd rfl hs
  | _ => rfl

/-- the same for a struct field, where a bracket-less `opaque` is excluded (finding K1) -/
theorem FieldPlan.sizeField {a : Ast} {at_ : ArrayType} {fd : FieldDec} (h : FieldPlan a at_ fd) (hk1 : at_ ≠ .none .opaque)
    (nm : String) :
    sizeFieldMatches (.plain nm fd) ⟨nm, at_.unwrapArray.isOpaque, at_.unwrapArray.isOpaque && isVariable at_⟩ = true := by
  cases h with
  | @one t hd => cases t <;> first | rfl | exact absurd rfl hk1
  | @fixedArr0 t _ ho hs hd hn => cases t <;> first | rfl | exact absurd rfl ho
  | @fixedArr t _ _ ho hs hd hn h0 => cases t <;> first | rfl | exact absurd rfl ho | exact absurd rfl hs
  | _ => rfl

/-- the lambda of `emitSize`'s struct clause -/
def sizeFieldOf (f : StructField) : SizeField := ⟨f.fieldName, f.containsOpaque, f.containsOpaque && isVariable f.fieldValue⟩

theorem emitSize_struct (a : Ast) (s : Struct) : (emitSize a (.struct s)).body = .struct (s.fields.map sizeFieldOf) := rfl

theorem emitSize_typedef (a : Ast) (td : Typedef) :
    (emitSize a (.typedef td)).body = .typedef td.target.isOpaque (td.target.isOpaque && !isFixed td.alias) := rfl

theorem emitStructField_exact {a : Ast} {P : Plans} (hP : PlansFor a P) {f : StructField} {sfd : StructFieldDec}
    (h : StructFieldPlan a f sfd) : sfd.resolved P = true ∧ sizeFieldMatches sfd (sizeFieldOf f) = true := by
  cases h with
  | @optional n hopt hfv hd =>
    refine ⟨hP.declared_has_impl n hd, ?_⟩
    simp [sizeFieldMatches, sizeFieldOf, StructField.containsOpaque, hfv, ArrayType.unwrapArray, BasicType.isOpaque]
  | plain hopt hdecl hp => exact ⟨hp.resolved hP, hp.sizeField (declaratorOk_iff.mp hdecl).2.2 _⟩

theorem emitStructFields_exact {a : Ast} {P : Plans} (hP : PlansFor a P) {fields : List StructField} {fs : List StructFieldDec}
    (h : StructFieldsPlan a fields fs) : fs.all (·.resolved P) = true ∧ sizeFieldsMatch fs (fields.map sizeFieldOf) = true := by
  induction h with
  | nil => exact ⟨rfl, rfl⟩
  | cons h _ ih =>
    obtain ⟨r1, m1⟩ := emitStructField_exact hP h
    simp [List.all_cons, r1, ih.1, sizeFieldsMatch, m1, ih.2]

theorem emitTypedef_exact {a : Ast} {P : Plans} (hP : PlansFor a P) {td : Typedef} {fd : FieldDec}
    (hp : FieldPlan a (wrapAlias td) fd) :
    fd.resolved P = true ∧ typedefSizeMatches fd td.target.isOpaque (td.target.isOpaque && !isFixed td.alias) = true := by
  refine ⟨hp.resolved hP, ?_⟩
  have := hp.sizeTypedef
  cases hal : td.alias <;> simpa [wrapAlias, hal, ArrayType.unwrapArray, isFixed] using this

theorem nonDigitName_eq_default {l : String} (h : nonDigitName l = "default") : l = "default" := by
  unfold nonDigitName at h
  split at h
  · split at h
    · -- "v_" ++ l = "default" is impossible: the first characters differ
      exfalso
      have := congrArg String.toList h
      simp [String.toList_append] at this
    · exact h
  · exact h

def sizeArmLabel : SizeArm → String
  | .data v _ => v
  | .void v => v

theorem findSizeArm_cons (v : String) (x : SizeArm) (rest : List SizeArm) :
    findSizeArm v (x :: rest) = if nonDigitName (sizeArmLabel x) == v then some x else findSizeArm v rest := by
  cases x <;> rfl

theorem findSizeArm_data_of_mem (v : String) (rest : List SizeArm) : ∀ (pre : List SizeArm), (∀ sa ∈ pre, ∃ l, sa = .data l false) →
    (∃ sa ∈ pre, nonDigitName (sizeArmLabel sa) = v) → ∃ l, findSizeArm v (pre ++ rest) = some (.data l false)
  | [], _, hmem => by
    obtain ⟨_, h, _⟩ := hmem
    cases h
  | x :: xs, hall, hmem => by
    rw [List.cons_append, findSizeArm_cons]
    split
    · exact (hall x List.mem_cons_self).imp fun _ => congrArg some
    · rename_i hne
      obtain ⟨sa, hsa, hv⟩ := hmem
      rcases List.mem_cons.mp hsa with rfl | hsa
      · exact absurd (beq_iff_eq.mpr hv) hne
      · exact findSizeArm_data_of_mem v rest xs (fun sa h => hall sa (List.mem_cons_of_mem _ h)) ⟨sa, hsa, hv⟩

theorem findSizeArm_skip (v : String) : ∀ (pre rest : List SizeArm),
    (∀ arm ∈ pre, nonDigitName (sizeArmLabel arm) ≠ v) → findSizeArm v (pre ++ rest) = findSizeArm v rest
  | [], _, _ => rfl
  | x :: xs, rest, h => by
    rw [List.cons_append, findSizeArm_cons, if_neg (fun e => h x List.mem_cons_self (beq_iff_eq.mp e))]
    exact findSizeArm_skip v xs rest fun arm hm => h arm (List.mem_cons_of_mem _ hm)

/-- the arms of `emitSize`'s union clause -/
def unionSizeArms (u : Union) : List SizeArm :=
  (u.cases.map fun c => c.caseValues.map fun l => SizeArm.data l c.containsOpaque).flatten
    ++ u.voidCases.map SizeArm.void
    ++ (match u.default with | some d => [SizeArm.data "default" d.containsOpaque] | none => [])

theorem emitSize_union (a : Ast) (u : Union) : (emitSize a (.union u)).body = .union (unionSizeArms u) := rfl

def dataSizeArms (cases : List UnionCase) : List SizeArm :=
  (cases.map fun c => c.caseValues.map fun l => SizeArm.data l c.containsOpaque).flatten

theorem mem_dataSizeArms {cs : List UnionCase} {sa : SizeArm} :
    sa ∈ dataSizeArms cs ↔ ∃ c ∈ cs, ∃ l ∈ c.caseValues, sa = .data l c.containsOpaque :=
  mem_perLabel

theorem unionDisc_exact {a : Ast} {P : Plans} (hP : PlansFor a P) {t : BasicType} (hk : discKind a t ≠ .unsupported)
    {disc : BasicDec} (he : decodeBasic a t .useTarget = .ok disc) :
    disc.resolved P = true ∧ discIsWord P disc = true := by
  rcases disc_cases hk he with ⟨_, rfl⟩ | ⟨_, rfl⟩ | ⟨_, rfl⟩ | ⟨n, e, _, rfl, rfl, hb⟩
  case inr.inr.inr =>
    obtain ⟨hname, i, arms, hfi, hbody⟩ := hP.enum_impl n _ hb
    simp only [BasicDec.resolved, discIsWord, hname, hfi, Option.isSome_some, true_and]
    cases i
    subst hbody
    rfl
  all_goals exact ⟨rfl, rfl⟩

theorem armDec_exact {a : Ast} {P : Plans} (hP : PlansFor a P) {fv : ArrayType} (h : armTypeOk a fv = true) :
    (armDec fv).resolved P = true ∧ fv.unwrapArray.isOpaque = false ∧
      ∀ sarms v, armSizeOk sarms v (some (armDec fv)) =
        (match findSizeArm (nonDigitName v) sarms with | some (.data _ false) => true | _ => false) := by
  obtain ⟨t, rfl, ho, hd⟩ := armTypeOk_iff.mp h
  refine ⟨basicAlias_resolved hP hd, ?_, fun sarms v => ?_⟩
  · cases t <;> first | rfl | exact absurd rfl ho
  · cases t <;> first | rfl | exact absurd rfl ho

/-- the union branch of `implSizeExact` -/
def unionSizeMatches (ud : UnionDec) (sarms : List SizeArm) : Bool :=
  ud.arms.all (fun arm => armSizeOk sarms arm.variant arm.payload) &&
  (match ud.tail with
   | .defaultData fd => armSizeOk sarms "default" (some fd)
   | _ => true)

theorem emitUnion_exact {a : Ast} {P : Plans} (hP : PlansFor a P) {u : Union} (hu : unionOk a u = true) {disc : BasicDec}
    (hdisc : decodeBasic a u.switch.varType .useTarget = .ok disc) :
    (ImplBody.union (unionPlan a u disc)).okFor P = true ∧ discIsWord P disc = true ∧
      unionSizeMatches (unionPlan a u disc) (unionSizeArms u) = true := by
  have hne := unionOk_labels_ne_default hu
  obtain ⟨hk, hc, hd, _, _⟩ := unionOk_facts hu
  obtain ⟨hdr, hdw⟩ := unionDisc_exact hP hk hdisc
  have hsplit : unionSizeArms u = dataSizeArms u.cases ++ (u.voidCases.map SizeArm.void ++
      (match u.default with | some d => [SizeArm.data "default" d.containsOpaque] | none => [])) :=
    List.append_assoc _ _ _
  -- every data arm is resolved and finds a no-padding size arm; void arms carry nothing
  have harm : ∀ arm ∈ (unionPlan a u disc).arms,
      arm.resolved P = true ∧ armSizeOk (unionSizeArms u) arm.variant arm.payload = true := by
    intro arm h
    rcases List.mem_append.mp h with h | h
    · obtain ⟨c, hcm, l, hl, rfl⟩ := mem_dataArms.mp h
      obtain ⟨hr, hco, hsz⟩ := armDec_exact hP (hc c hcm)
      obtain ⟨l', hfind⟩ := findSizeArm_data_of_mem (nonDigitName l) _ (dataSizeArms u.cases)
        (fun sa hsa => by
          obtain ⟨c', hc', l', _, rfl⟩ := mem_dataSizeArms.mp hsa
          exact ⟨l', by rw [show c'.containsOpaque = false from (armDec_exact hP (hc c' hc')).2.1]⟩)
        ⟨_, mem_dataSizeArms.mpr ⟨c, hcm, l, hl, rfl⟩, rfl⟩
      exact ⟨hr, by rw [hsz, hsplit, hfind]⟩
    · obtain ⟨l, _, rfl⟩ := List.mem_map.mp h
      simp only [emitVoid]
      split <;> exact ⟨rfl, rfl⟩
  have hres : (unionPlan a u disc).arms.all (·.resolved P) = true := List.all_eq_true.mpr fun arm h => (harm arm h).1
  have hsize : (unionPlan a u disc).arms.all (fun arm => armSizeOk (unionSizeArms u) arm.variant arm.payload) = true :=
    List.all_eq_true.mpr fun arm h => (harm arm h).2
  have htail : (match unionTail u with
        | .defaultData fd => fd.resolved P
        | .errUnknown => true
        | .none => hasWild (unionPlan a u disc).arms) = true ∧
      (match unionTail u with
        | .defaultData fd => armSizeOk (unionSizeArms u) "default" (some fd)
        | _ => true) = true := by
    unfold unionTail
    cases hdf : u.default with
    | some d =>
      obtain ⟨hat, hnov⟩ := hd d hdf
      obtain ⟨hresd, hco, hsz⟩ := armDec_exact hP hat
      refine ⟨hresd, ?_⟩
      -- no data or void arm is called "default"; the default arm itself has no padding
      have hnd : nonDigitName "default" = "default" := by simp [nonDigitName]
      have hval : findSizeArm "default" (unionSizeArms u) = some (SizeArm.data "default" false) := by
        have hco' : d.containsOpaque = false := hco
        simp only [hsplit, hdf, hco']
        rw [findSizeArm_skip, findSizeArm_skip]
        · simp only [findSizeArm, hnd, beq_self_eq_true, if_true]
        · intro arm harm hname
          obtain ⟨l, hl, rfl⟩ := List.mem_map.mp harm
          cases nonDigitName_eq_default hname
          rw [List.contains_eq_mem, decide_eq_false_iff_not] at hnov
          exact hnov hl
        · intro arm harm hname
          obtain ⟨c, hcm, l, hl, rfl⟩ := mem_dataSizeArms.mp harm
          exact hne c hcm l hl (nonDigitName_eq_default hname)
      simp only [hsz, hnd, hval]
    | none =>
      by_cases hv : u.voidCases.contains "default" = true
      · simp only [hv, if_true, and_true, unionPlan, hasWild, List.any_append, Bool.or_eq_true]
        exact Or.inr (List.any_eq_true.mpr ⟨emitVoid a u.switch.varType "default",
          List.mem_map.mpr ⟨"default", by simpa using hv, rfl⟩, by simp [emitVoid]⟩)
      · simp only [hv, Bool.false_eq_true, if_false, and_self]
  exact ⟨Bool.and_eq_true_iff.mpr ⟨Bool.and_eq_true_iff.mpr ⟨hdr, hres⟩, htail.1⟩, hdw, Bool.and_eq_true_iff.mpr ⟨hsize, htail.2⟩⟩

theorem implSizeExact_eq {p : Plans} {i : Impl} {s : SizeImpl} (hs : p.findSize i.name = some s) :
    implSizeExact p i =
      match i.body, s.body with
      | .struct fs, .struct sfs => sizeFieldsMatch fs sfs
      | .union ud, .union sarms => unionSizeMatches ud sarms
      | .enum _, .enum => true
      | .typedef fd, .typedef opq plus4 => typedefSizeMatches fd opq plus4
      | _, _ => false := by
  simp only [implSizeExact, hs]
  rfl

theorem plansFor_of_supported {a : Ast} {m : Module} (hs : Supported a = true) (hg : generateModule a = .ok m) :
    PlansFor a m.plans := by
  have F := sfacts_of_supported hs
  refine ⟨fun n hd => ?_, F.safe, fun n e hb => ?_⟩
  · obtain ⟨ty, hb⟩ := declared_iff.mp hd
    obtain ⟨i, hi, _⟩ := find_impl_of_types hg F.keys hb
    rw [hi]
    rfl
  · obtain ⟨i, hi, he⟩ := find_impl_of_types hg F.keys hb
    cases he
    exact ⟨F.enum_name hb, _, _, hi, rfl⟩

/-- `.1` is what C04 needs, `.2` what C01–C03 and C05 need -/
theorem supported_plans {a : Ast} {m : Module} (hs : Supported a = true) (hg : generateModule a = .ok m) :
    m.plans.Ok = true ∧ m.plans.SizeExact' = true := by
  have hP := plansFor_of_supported hs hg
  have hkn := (sfacts_of_supported hs).keys
  have hper : ∀ i ∈ m.fromRefMut, i.body.okFor m.plans = true ∧ implSizeExact m.plans i = true ∧
      (match i.body with | .union u => discIsWord m.plans u.disc | _ => true) = true := by
    intro i hi
    obtain ⟨ty, hb, hname, hok, he⟩ := impl_of_mem hs hg hi
    rw [implSizeExact_eq (find_size_of_types hg hkn hb)]
    cases ty with
    | struct s =>
      obtain ⟨fs, hfs, hbody⟩ := emitImpl_struct_ok hP.declared_safe hok he
      obtain ⟨r, mt⟩ := emitStructFields_exact hP hfs
      rw [hbody, emitSize_struct]
      exact ⟨r, mt, rfl⟩
    | union u =>
      obtain ⟨disc, hdisc, hbody⟩ := emitImpl_union_ok hok he
      obtain ⟨r1, r2, r3⟩ := emitUnion_exact hP hok hdisc
      rw [hbody, emitSize_union]
      exact ⟨r1, r3, r2⟩
    | enum e =>
      cases he
      exact ⟨rfl, rfl, rfl⟩
    | typedef td =>
      rw [hname] at hb
      obtain ⟨fd, hp, hbody⟩ := emitImpl_typedef_ok hP.declared_safe hok hb he
      obtain ⟨r, mt⟩ := emitTypedef_exact hP hp
      rw [hbody, emitSize_typedef]
      exact ⟨r, mt, rfl⟩
  refine ⟨List.all_eq_true.mpr fun i hi => (hper i hi).1, ?_⟩
  simp only [Plans.SizeExact', Plans.SizeExact, Bool.and_eq_true]
  exact ⟨List.all_eq_true.mpr fun i hi => (hper i hi).2.1, List.all_eq_true.mpr fun i hi => (hper i hi).2.2⟩

end Fx
