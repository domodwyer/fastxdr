/-
  Fx.Lemmas.PegRel — what the parser model answers, without a budget: `EOk g a e s s' ts` says that some recursion budget
  makes `eval g · a e s` answer `ok s' ts`.  Every larger budget gives the same answer (`fuel_succ`), so such facts compose
  like the rules of a big-step semantics: one lemma per rule, proved about the interpreter itself.  Suffix `A`: the rule in
  atomic context (no skip, no token); in ParseRules `At`: an atomic rule, `AtA`: an atomic rule in atomic context.
-/
import Fx.Lemmas.PegFuel
namespace Fx.Peg

section
variable (g : Grammar)

def EOk (a : Bool) (e : Expr) (s s' : St) (ts : List Pair) : Prop := ∃ f, eval g f a e s = .ok s' ts
def EFail (a : Bool) (e : Expr) (s : St) : Prop := ∃ f, eval g f a e s = .fail
def ROk (a : Bool) (n : String) (s s' : St) (ts : List Pair) : Prop := ∃ f, evalRule g f a n s = .ok s' ts
def RFail (a : Bool) (n : String) (s : St) : Prop := ∃ f, evalRule g f a n s = .fail
/-- `ts` is existential: every caller discards it -/
def SkOk (s s' : St) : Prop := ∃ f ts, skip g f s = .ok s' ts
def WsOk (s s' : St) : Prop := ∃ f ts, skipWs g f s = .ok s' ts
def RepOk (a : Bool) (e : Expr) (s : St) (acc : List Pair) (s' : St) (ts : List Pair) : Prop :=
  ∃ f, repeatMore g f a e s acc = .ok s' ts

variable {g}

theorem consumed_app (p : Nat) (t r : List Char) : consumed ⟨p, t ++ r⟩ ⟨p + t.length, r⟩ = t := by
  simp [consumed]

theorem matchStr_head_ne {c : Char} {k : List Char} {p : Nat} {r : List Char} (h : r.head? ≠ some c) :
    matchStr (c :: k) ⟨p, r⟩ = none := by
  cases r with
  | nil => rfl
  | cons d ds =>
    have : ¬ (c = d) := fun e => h (by simp [e])
    simp [matchStr, this]

theorem matchStr_self : ∀ (k r : List Char) (p : Nat), matchStr k ⟨p, k ++ r⟩ = some ⟨p + k.length, r⟩ := by
  intro k
  induction k with
  | nil => intro r p; simp [matchStr]
  | cons c cs ih =>
    intro r p
    simp only [List.cons_append, matchStr, if_true, ih, List.length_cons]
    congr 2; omega

theorem EOk.str {at_ : Bool} {t : List Char} {s s' : St} (h : matchStr t s = some s') : EOk g at_ (.str t) s s' [] :=
  ⟨1, by simp [eval_str, h, ofOpt]⟩

theorem EFail.str {at_ : Bool} {t : List Char} {s : St} (h : matchStr t s = none) : EFail g at_ (.str t) s :=
  ⟨1, by simp [eval_str, h, ofOpt]⟩

theorem EOk.any {at_ : Bool} {p : Nat} {c : Char} {cs : List Char} : EOk g at_ .any ⟨p, c :: cs⟩ ⟨p + 1, cs⟩ [] :=
  ⟨1, by simp [eval_any]⟩

theorem EOk.soi {at_ : Bool} {cs : List Char} : EOk g at_ .soi ⟨0, cs⟩ ⟨0, cs⟩ [] := ⟨1, by simp [eval_soi]⟩

theorem EOk.eoi {p : Nat} : EOk g false .eoi ⟨p, []⟩ ⟨p, []⟩ [Pair.mk "EOI" [] []] := ⟨1, by simp [eval_eoi]⟩

theorem EOk.digit {at_ : Bool} {p : Nat} {c : Char} {cs : List Char} (h : isAsciiDigit c = true) :
    EOk g at_ .digit ⟨p, c :: cs⟩ ⟨p + 1, cs⟩ [] := ⟨1, by simp [eval_digit, h]⟩

theorem EFail.digit {at_ : Bool} {p : Nat} {c : Char} {cs : List Char} (h : isAsciiDigit c = false) :
    EFail g at_ .digit ⟨p, c :: cs⟩ := ⟨1, by simp [eval_digit, h]⟩

theorem EFail.digit_nil {at_ : Bool} {p : Nat} : EFail g at_ .digit ⟨p, []⟩ := ⟨1, by simp [eval_digit]⟩

theorem EOk.alnum {at_ : Bool} {p : Nat} {c : Char} {cs : List Char} (h : isAsciiAlnum c = true) :
    EOk g at_ .alnum ⟨p, c :: cs⟩ ⟨p + 1, cs⟩ [] := ⟨1, by simp [eval_alnum, h]⟩

theorem EFail.alnum {at_ : Bool} {p : Nat} {c : Char} {cs : List Char} (h : isAsciiAlnum c = false) :
    EFail g at_ .alnum ⟨p, c :: cs⟩ := ⟨1, by simp [eval_alnum, h]⟩

theorem EFail.alnum_nil {at_ : Bool} {p : Nat} : EFail g at_ .alnum ⟨p, []⟩ := ⟨1, by simp [eval_alnum]⟩

theorem EOk.newline_n {at_ : Bool} {p : Nat} {cs : List Char} : EOk g at_ .newline ⟨p, '\n' :: cs⟩ ⟨p + 1, cs⟩ [] :=
  ⟨1, by simp [eval_newline, matchStr]⟩

/-- one line end, two characters: `matchStr` counts `p + 1 + 1` -/
theorem EOk.newline_rn {at_ : Bool} {p : Nat} {cs : List Char} : EOk g at_ .newline ⟨p, '\r' :: '\n' :: cs⟩ ⟨p + 1 + 1, cs⟩ [] :=
  ⟨1, by simp [eval_newline, matchStr]⟩

theorem EOk.newline_r {at_ : Bool} {p : Nat} {cs : List Char} (h : cs.head? ≠ some '\n') :
    EOk g at_ .newline ⟨p, '\r' :: cs⟩ ⟨p + 1, cs⟩ [] := by
  refine ⟨1, ?_⟩
  cases cs with
  | nil => simp [eval_newline, matchStr, ofOpt]
  | cons d ds =>
    have : ¬ ('\n' = d) := fun e => h (by simp [← e])
    simp [eval_newline, matchStr, ofOpt, this]

theorem EFail.newline {a : Bool} {p : Nat} {c : Char} {cs : List Char} (h1 : c ≠ '\n') (h2 : c ≠ '\r') :
    EFail g a .newline ⟨p, c :: cs⟩ := by
  have e1 : ¬ ('\n' = c) := fun e => h1 e.symm
  have e2 : ¬ ('\r' = c) := fun e => h2 e.symm
  exact ⟨1, by simp [eval_newline, matchStr, ofOpt, e1, e2]⟩

theorem EFail.newline_nil {at_ : Bool} {p : Nat} : EFail g at_ .newline ⟨p, []⟩ := ⟨1, by simp [eval_newline, matchStr, ofOpt]⟩

theorem EFail.any_nil {at_ : Bool} {p : Nat} : EFail g at_ .any ⟨p, []⟩ := ⟨1, by simp [eval_any]⟩

theorem EFail.eoi {a : Bool} {p : Nat} {c : Char} {cs : List Char} : EFail g a .eoi ⟨p, c :: cs⟩ := ⟨1, by simp [eval_eoi]⟩

theorem EOk.ref {at_ : Bool} {n : String} {s s' : St} {ts : List Pair} (h : ROk g at_ n s s' ts) : EOk g at_ (.ref n) s s' ts := by
  obtain ⟨f, h⟩ := h
  exact ⟨f + 1, by rw [eval_ref]; exact h⟩

theorem EFail.ref {at_ : Bool} {n : String} {s : St} (h : RFail g at_ n s) : EFail g at_ (.ref n) s := by
  obtain ⟨f, h⟩ := h
  exact ⟨f + 1, by rw [eval_ref]; exact h⟩

theorem EOk.seq {a b : Expr} {s s1 s1' s2 : St} {t1 t2 : List Pair} (ha : EOk g false a s s1 t1) (hs : SkOk g s1 s1')
    (hb : EOk g false b s1' s2 t2) : EOk g false (.seq a b) s s2 (t1 ++ t2) := by
  obtain ⟨f1, h1⟩ := ha; obtain ⟨f2, x, h2⟩ := hs; obtain ⟨f3, h3⟩ := hb
  refine ⟨f1 + f2 + f3 + 1, ?_⟩
  rw [eval_seq, eval_lift g h1 (by omega), PR.on_ok, skipIf_false, skip_lift g h2 (by omega), PR.on_ok,
    eval_lift g h3 (by omega)]
  rfl

theorem EOk.seqA {a b : Expr} {s s1 s2 : St} {t1 t2 : List Pair} (ha : EOk g true a s s1 t1)
    (hb : EOk g true b s1 s2 t2) : EOk g true (.seq a b) s s2 (t1 ++ t2) := by
  obtain ⟨f1, h1⟩ := ha; obtain ⟨f3, h3⟩ := hb
  refine ⟨f1 + f3 + 1, ?_⟩
  rw [eval_seq, eval_lift g h1 (by omega), PR.on_ok, skipIf_true, PR.on_ok, eval_lift g h3 (by omega)]
  rfl

theorem EFail.seq1 {at_ : Bool} {a b : Expr} {s : St} (ha : EFail g at_ a s) : EFail g at_ (.seq a b) s := by
  obtain ⟨f1, h1⟩ := ha
  exact ⟨f1 + 1, by rw [eval_seq, h1]; rfl⟩

theorem EFail.seq2 {a b : Expr} {s s1 s1' : St} {t1 : List Pair} (ha : EOk g false a s s1 t1) (hs : SkOk g s1 s1')
    (hb : EFail g false b s1') : EFail g false (.seq a b) s := by
  obtain ⟨f1, h1⟩ := ha; obtain ⟨f2, x, h2⟩ := hs; obtain ⟨f3, h3⟩ := hb
  refine ⟨f1 + f2 + f3 + 1, ?_⟩
  rw [eval_seq, eval_lift g h1 (by omega), PR.on_ok, skipIf_false, skip_lift g h2 (by omega), PR.on_ok,
    eval_lift g h3 (by omega)]
  rfl

theorem EFail.seq2A {a b : Expr} {s s1 : St} {t1 : List Pair} (ha : EOk g true a s s1 t1)
    (hb : EFail g true b s1) : EFail g true (.seq a b) s := by
  obtain ⟨f1, h1⟩ := ha; obtain ⟨f3, h3⟩ := hb
  refine ⟨f1 + f3 + 1, ?_⟩
  rw [eval_seq, eval_lift g h1 (by omega), PR.on_ok, skipIf_true, PR.on_ok, eval_lift g h3 (by omega)]
  rfl

theorem EOk.alt1 {at_ : Bool} {a b : Expr} {s s' : St} {ts : List Pair} (ha : EOk g at_ a s s' ts) :
    EOk g at_ (.alt a b) s s' ts := by
  obtain ⟨f1, h1⟩ := ha
  exact ⟨f1 + 1, by rw [eval_alt, h1]; rfl⟩

theorem EOk.alt2 {at_ : Bool} {a b : Expr} {s s' : St} {ts : List Pair} (ha : EFail g at_ a s) (hb : EOk g at_ b s s' ts) :
    EOk g at_ (.alt a b) s s' ts := by
  obtain ⟨f1, h1⟩ := ha; obtain ⟨f2, h2⟩ := hb
  refine ⟨f1 + f2 + 1, ?_⟩
  rw [eval_alt, eval_lift g h1 (by omega), PR.on_fail, eval_lift g h2 (by omega)]

theorem EFail.alt {at_ : Bool} {a b : Expr} {s : St} (ha : EFail g at_ a s) (hb : EFail g at_ b s) :
    EFail g at_ (.alt a b) s := by
  obtain ⟨f1, h1⟩ := ha; obtain ⟨f2, h2⟩ := hb
  refine ⟨f1 + f2 + 1, ?_⟩
  rw [eval_alt, eval_lift g h1 (by omega), PR.on_fail, eval_lift g h2 (by omega)]

theorem EOk.opt_some {at_ : Bool} {e : Expr} {s s' : St} {ts : List Pair} (h : EOk g at_ e s s' ts) :
    EOk g at_ (.opt e) s s' ts := by
  obtain ⟨f1, h1⟩ := h
  exact ⟨f1 + 1, by rw [eval_opt, h1]; rfl⟩

theorem EOk.opt_none {at_ : Bool} {e : Expr} {s : St} (h : EFail g at_ e s) : EOk g at_ (.opt e) s s [] := by
  obtain ⟨f1, h1⟩ := h
  exact ⟨f1 + 1, by rw [eval_opt, h1]; rfl⟩

theorem EOk.not {at_ : Bool} {e : Expr} {s : St} (h : EFail g at_ e s) : EOk g at_ (.not e) s s [] := by
  obtain ⟨f1, h1⟩ := h
  exact ⟨f1 + 1, by rw [eval_not, h1]; rfl⟩

theorem EFail.not {at_ : Bool} {e : Expr} {s s' : St} {ts : List Pair} (h : EOk g at_ e s s' ts) : EFail g at_ (.not e) s := by
  obtain ⟨f1, h1⟩ := h
  exact ⟨f1 + 1, by rw [eval_not, h1]; rfl⟩

theorem EOk.star_nil {at_ : Bool} {e : Expr} {s : St} (h : EFail g at_ e s) : EOk g at_ (.star e) s s [] := by
  obtain ⟨f1, h1⟩ := h
  exact ⟨f1 + 1, by rw [eval_star, h1]; rfl⟩

theorem EOk.star_cons {at_ : Bool} {e : Expr} {s s1 s' : St} {t1 ts : List Pair} (h : EOk g at_ e s s1 t1)
    (hr : RepOk g at_ e s1 t1 s' ts) : EOk g at_ (.star e) s s' ts := by
  obtain ⟨f1, h1⟩ := h; obtain ⟨f2, h2⟩ := hr
  refine ⟨f1 + f2 + 1, ?_⟩
  rw [eval_star, eval_lift g h1 (by omega), PR.on_ok, repeatMore_lift g h2 (by omega)]

/-- the position before the skip is restored -/
theorem RepOk.stop {e : Expr} {s s' : St} {acc : List Pair} (hs : SkOk g s s') (h : EFail g false e s') :
    RepOk g false e s acc s acc := by
  obtain ⟨f1, x, h1⟩ := hs; obtain ⟨f2, h2⟩ := h
  refine ⟨f1 + f2 + 1, ?_⟩
  rw [repeatMore_succ, skipIf_false, skip_lift g h1 (by omega), PR.on_ok, eval_lift g h2 (by omega)]
  rfl

theorem RepOk.stopA {e : Expr} {s : St} {acc : List Pair} (h : EFail g true e s) : RepOk g true e s acc s acc := by
  obtain ⟨f2, h2⟩ := h
  refine ⟨f2 + 1, ?_⟩
  rw [repeatMore_succ, skipIf_true, PR.on_ok, h2]
  rfl

theorem RepOk.step {e : Expr} {s s' s2 sf : St} {acc t2 tf : List Pair} (hs : SkOk g s s') (h : EOk g false e s' s2 t2)
    (hp : s2.pos ≠ s.pos) (hr : RepOk g false e s2 (acc ++ t2) sf tf) : RepOk g false e s acc sf tf := by
  obtain ⟨f1, x, h1⟩ := hs; obtain ⟨f2, h2⟩ := h; obtain ⟨f3, h3⟩ := hr
  refine ⟨f1 + f2 + f3 + 1, ?_⟩
  rw [repeatMore_succ, skipIf_false, skip_lift g h1 (by omega), PR.on_ok, eval_lift g h2 (by omega), PR.on_ok,
    if_neg hp, repeatMore_lift g h3 (by omega)]

theorem RepOk.stepA {e : Expr} {s s2 sf : St} {acc t2 tf : List Pair} (h : EOk g true e s s2 t2)
    (hp : s2.pos ≠ s.pos) (hr : RepOk g true e s2 (acc ++ t2) sf tf) : RepOk g true e s acc sf tf := by
  obtain ⟨f2, h2⟩ := h; obtain ⟨f3, h3⟩ := hr
  refine ⟨f2 + f3 + 1, ?_⟩
  rw [repeatMore_succ, skipIf_true, PR.on_ok, eval_lift g h2 (by omega), PR.on_ok, if_neg hp, repeatMore_lift g h3 (by omega)]

theorem EOk.plus {at_ : Bool} {e : Expr} {s s' : St} {ts : List Pair} (h : EOk g at_ (.seq e (.star e)) s s' ts) :
    EOk g at_ (.plus e) s s' ts := by
  obtain ⟨f1, h1⟩ := h
  exact ⟨f1 + 1, by rw [eval_plus, h1]⟩

theorem EFail.plus {at_ : Bool} {e : Expr} {s : St} (h : EFail g at_ e s) : EFail g at_ (.plus e) s := by
  obtain ⟨f1, h1⟩ := h
  exact ⟨f1 + 2, by rw [eval_plus, eval_seq, h1]; rfl⟩

theorem ROk.silent {at_ : Bool} {n : String} {r : Rule} {s s' : St} {ts : List Pair} (hf : g.find n = some r)
    (hn : (n == "WHITESPACE" || n == "COMMENT") = false) (ht : r.ty = .silent) (h : EOk g at_ r.body s s' ts) :
    ROk g at_ n s s' ts := by
  obtain ⟨f1, h1⟩ := h
  exact ⟨f1 + 1, by rw [evalRule_succ, hf]; simp only [hn, Bool.false_eq_true, if_false, ht]; exact h1⟩

theorem RFail.silent {at_ : Bool} {n : String} {r : Rule} {s : St} (hf : g.find n = some r)
    (hn : (n == "WHITESPACE" || n == "COMMENT") = false) (ht : r.ty = .silent) (h : EFail g at_ r.body s) :
    RFail g at_ n s := by
  obtain ⟨f1, h1⟩ := h
  exact ⟨f1 + 1, by rw [evalRule_succ, hf]; simp only [hn, Bool.false_eq_true, if_false, ht]; exact h1⟩

theorem ROk.normal {n : String} {r : Rule} {s s' : St} {ts : List Pair} (hf : g.find n = some r)
    (hn : (n == "WHITESPACE" || n == "COMMENT") = false) (ht : r.ty = .normal) (h : EOk g false r.body s s' ts) :
    ROk g false n s s' [Pair.mk n (consumed s s') ts] := by
  obtain ⟨f1, h1⟩ := h
  exact ⟨f1 + 1, by rw [evalRule_succ, hf]; simp only [hn, Bool.false_eq_true, if_false, ht, h1, PR.on_ok]⟩

theorem ROk.normalA {n : String} {r : Rule} {s s' : St} {ts : List Pair} (hf : g.find n = some r)
    (hn : (n == "WHITESPACE" || n == "COMMENT") = false) (ht : r.ty = .normal) (h : EOk g true r.body s s' ts) :
    ROk g true n s s' [] := by
  obtain ⟨f1, h1⟩ := h
  exact ⟨f1 + 1, by rw [evalRule_succ, hf]; simp only [hn, Bool.false_eq_true, if_false, ht, h1, if_true, PR.on_ok]⟩

theorem RFail.normal {at_ : Bool} {n : String} {r : Rule} {s : St} (hf : g.find n = some r)
    (hn : (n == "WHITESPACE" || n == "COMMENT") = false) (ht : r.ty = .normal) (h : EFail g at_ r.body s) :
    RFail g at_ n s := by
  obtain ⟨f1, h1⟩ := h
  exact ⟨f1 + 1, by rw [evalRule_succ, hf]; simp only [hn, Bool.false_eq_true, if_false, ht, h1, PR.on_fail]⟩

theorem ROk.atomic {n : String} {r : Rule} {s s' : St} {ts : List Pair} (hf : g.find n = some r)
    (hn : (n == "WHITESPACE" || n == "COMMENT") = false) (ht : r.ty = .atomic) (h : EOk g true r.body s s' ts) :
    ROk g false n s s' [Pair.mk n (consumed s s') []] := by
  obtain ⟨f1, h1⟩ := h
  exact ⟨f1 + 1, by rw [evalRule_succ, hf]; simp only [hn, Bool.false_eq_true, if_false, ht, h1, PR.on_ok]⟩

theorem ROk.atomicA {n : String} {r : Rule} {s s' : St} {ts : List Pair} (hf : g.find n = some r)
    (hn : (n == "WHITESPACE" || n == "COMMENT") = false) (ht : r.ty = .atomic) (h : EOk g true r.body s s' ts) :
    ROk g true n s s' [] := by
  obtain ⟨f1, h1⟩ := h
  exact ⟨f1 + 1, by rw [evalRule_succ, hf]; simp only [hn, Bool.false_eq_true, if_false, ht, h1, if_true, PR.on_ok]⟩

theorem RFail.atomic {at_ : Bool} {n : String} {r : Rule} {s : St} (hf : g.find n = some r)
    (hn : (n == "WHITESPACE" || n == "COMMENT") = false) (ht : r.ty = .atomic) (h : EFail g true r.body s) :
    RFail g at_ n s := by
  obtain ⟨f1, h1⟩ := h
  exact ⟨f1 + 1, by rw [evalRule_succ, hf]; simp only [hn, Bool.false_eq_true, if_false, ht, h1, PR.on_fail]⟩

theorem ROk.layout {at_ : Bool} {n : String} {r : Rule} {s s' : St} {ts : List Pair} (hf : g.find n = some r)
    (hn : (n == "WHITESPACE" || n == "COMMENT") = true) (h : EOk g true r.body s s' ts) : ROk g at_ n s s' [] := by
  obtain ⟨f1, h1⟩ := h
  exact ⟨f1 + 1, by rw [evalRule_succ, hf]; simp only [hn, if_true, h1, PR.on_ok]⟩

theorem RFail.layout {at_ : Bool} {n : String} {r : Rule} {s : St} (hf : g.find n = some r)
    (hn : (n == "WHITESPACE" || n == "COMMENT") = true) (h : EFail g true r.body s) : RFail g at_ n s := by
  obtain ⟨f1, h1⟩ := h
  exact ⟨f1 + 1, by rw [evalRule_succ, hf]; simp only [hn, if_true, h1, PR.on_fail]⟩

theorem WsOk.stop {s : St} (h : RFail g true "WHITESPACE" s) : WsOk g s s := by
  obtain ⟨f1, h1⟩ := h
  exact ⟨f1 + 1, [], by rw [skipWs_succ, h1]; rfl⟩

theorem WsOk.step {s s1 s' : St} {ts : List Pair} (h : ROk g true "WHITESPACE" s s1 ts) (hp : s1.pos ≠ s.pos) (hr : WsOk g s1 s') :
    WsOk g s s' := by
  obtain ⟨f1, h1⟩ := h; obtain ⟨f2, x, h2⟩ := hr
  refine ⟨f1 + f2 + 1, x, ?_⟩
  rw [skipWs_succ, evalRule_lift g h1 (by omega), PR.on_ok, if_neg hp, skipWs_lift g h2 (by omega)]

theorem SkOk.stop {s s1 : St} (hw : WsOk g s s1) (h : RFail g true "COMMENT" s1) : SkOk g s s1 := by
  obtain ⟨f1, x, h1⟩ := hw; obtain ⟨f2, h2⟩ := h
  refine ⟨f1 + f2 + 1, [], ?_⟩
  rw [skip_succ, skipWs_lift g h1 (by omega), PR.on_ok, evalRule_lift g h2 (by omega)]
  rfl

theorem SkOk.step {s s1 s2 s' : St} {ts : List Pair} (hw : WsOk g s s1) (h : ROk g true "COMMENT" s1 s2 ts)
    (hp : s2.pos ≠ s1.pos) (hr : SkOk g s2 s') : SkOk g s s' := by
  obtain ⟨f1, x, h1⟩ := hw; obtain ⟨f2, h2⟩ := h; obtain ⟨f3, y, h3⟩ := hr
  refine ⟨f1 + f2 + f3 + 1, y, ?_⟩
  rw [skip_succ, skipWs_lift g h1 (by omega), PR.on_ok, evalRule_lift g h2 (by omega), PR.on_ok, if_neg hp,
    skip_lift g h3 (by omega)]

end
end Fx.Peg
