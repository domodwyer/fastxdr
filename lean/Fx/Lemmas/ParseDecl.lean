/-
  Fx.Lemmas.ParseDecl — constants, typedefs, enums and structs: the grammar accepts their text (Lemmas/ParseSyntax, a layout
  at every gap) with the expected tokens.
-/
import Fx.Lemmas.ParseField
namespace Fx.Parse
open Fx.Peg

theorem Acc.constD (d : ConstD) (h : d.ok = true) : Acc (.ref "constant") d.text d.tokens (fun _ => True) := by
  have ok := ConstD.of_ok h
  have a4 := (Acc.ident ok.val).thenSym d.l4 ok.l4 (Acc.str [';']) symStart_cons
  have a3 := (Acc.str ['=']).then d.l3 ok.l3 a4 ((tokStart_ident ok.val).app)
  have a2 := (Acc.ident ok.name).thenSym d.l2 ok.l2 a3 symStart_cons
  have a1 := (Acc.str kwConst).then d.l1 ok.l1 a2 ((tokStart_ident ok.name).app)
  exact (Acc.rule has_constant a1).castT rfl (by simp [ConstD.tokens, ConstD.text])

theorem Acc.typedefD (d : TypedefD) (h : d.ok = true) : Acc (.ref "typedef") d.text d.tokens (fun _ => True) := by
  have ok := TypedefD.of_ok h
  have hname : Acc (.ref "ident") d.f.nameText d.f.nameToks NoIdentStart := by
    simp only [Field.nameText, Field.nameToks, ok.star]
    exact Acc.ident (Field.of_ok ok.f).name
  have core := field_core d.f ok.f (.ref "ident") hname
  have := (Acc.str kwTypedef).then d.l0 ok.l0 core (tokStart_field ok.f)
  exact (Acc.rule has_typedef this).castT rfl (by simp [TypedefD.tokens, TypedefD.text])

theorem Acc.variantD (v : VariantD) (h : v.ok = true) : Acc (.ref "enum_variant") v.text v.tokens NoIdentStart := by
  have ok := VariantD.of_ok h
  have a2 := (Acc.str ['=']).then v.l2 ok.l2 (Acc.ident ok.val) (tokStart_ident ok.val)
  have a1 := (Acc.ident ok.name).thenSym v.l1 ok.l1 a2 symStart_cons
  exact (Acc.rule has_enum_variant a1).castT rfl (by simp [VariantD.tokens, VariantD.text])

theorem Rej.variant : Rej (.ref "enum_variant") NoIdentStart := Rej.rule has_enum_variant (Rej.seq1 Rej.ident)

def AfterVariant (r : List Char) : Prop := Starts ',' r ∨ Starts '}' r

theorem AfterVariant.noIdent {r : List Char} (h : AfterVariant r) : NoIdentStart r := by
  rcases h with h | h <;> exact Starts.ahead h (by decide)

theorem AfterVariant.noLayout {r : List Char} (h : AfterVariant r) : NoLayoutStart r := by
  rcases h with h | h <;> exact Starts.ahead h ⟨by decide, by decide⟩

theorem Acc.moreEl (m : Layout × VariantD × Layout) (hl : m.1.ok = true) (hv : m.2.1.ok = true) :
    Acc (.seq (.str [',']) (.ref "enum_variant")) (moreElem m).T (moreElem m).TS NoIdentStart := by
  have := (Acc.str [',']).then m.1 hl (Acc.variantD m.2.1 hv) (tokStart_ident (VariantD.of_ok hv).name).app
  exact this.castT rfl (by simp [moreElem])

theorem Acc.enumD (d : EnumD) (h : d.ok = true) : Acc (.ref "enum_type") d.text d.tokens (fun _ => True) := by
  have ok := EnumD.of_ok h
  -- first variant, then `enum_variant*` finds no further variant
  have aPlus : Acc (.plus (.ref "enum_variant")) (d.first.text ++ (d.lf.text ++ [])) (d.first.tokens ++ []) AfterVariant :=
    Acc.plus ((Acc.variantD d.first ok.first).seq d.lf ok.lf
      (Acc.star_nil (Cend := AfterVariant) (Rej.variant.mono (fun _ h => h.noIdent)))
      (hafter := fun r hr => by simpa using noIdent_layout ok.lf hr.noIdent) (hstart := fun r hr => by simpa using hr.noLayout))
  have hrejMore : Rej (.seq (.str [',']) (.ref "enum_variant")) (Starts '}') :=
    Rej.seq1 (Rej.str_head.mono fun _ h => h.notStarts (by decide))
  have aTail : Acc (.seq (.star (.seq (.str [',']) (.ref "enum_variant"))) (.seq (.str ['}']) (.str [';'])))
      (elemsText (d.more.map moreElem) ++ (['}'] ++ (d.l4.text ++ [';']))) (elemToks (d.more.map moreElem) ++ ([] ++ []))
      (fun _ => True) := by
    refine Acc.star_brace hrejMore d.l4 ok.l4 _ (fun r hr => ?_)
    refine (elemsOk_of NoIdentStart AfterVariant r (.inr hr) (fun _ h => h.noLayout)
      (fun L x hL hx => noIdent_layout hL hx.noIdent) (fun x hx => ?_)).1
    obtain ⟨m, hmem, rfl⟩ := List.mem_map.mp hx
    obtain ⟨hla, hv, hlb⟩ := ok.more m hmem
    exact ⟨by simp [moreElem], hlb, Acc.moreEl m hla hv, fun y => .inl (by simp [moreElem, Starts])⟩
  have aBody : Acc (.seq (.plus (.ref "enum_variant")) (.seq (.star (.seq (.str [',']) (.ref "enum_variant"))) (.seq (.str ['}']) (.str [';']))))
      d.body (d.first.tokens ++ elemToks (d.more.map moreElem)) (fun _ => True) := by
    -- after the first variant comes `,` (a further variant) or `}`; neither is layout
    have after : ∀ r, True → AfterVariant (elemsText (d.more.map moreElem) ++ (['}'] ++ (d.l4.text ++ [';'])) ++ r) := by
      intro r _
      cases d.more with
      | nil => exact .inr (by simp [elemsText, Starts])
      | cons m ms => exact .inl (by simp [elemsText, moreElem, Starts])
    exact (Acc.seq0 aPlus aTail (hafter := after) (hstart := fun r hr => (after r hr).noLayout)).castT
      (by simp [EnumD.body, List.append_assoc]) (by simp)
  have a3 := (Acc.str ['{']).then d.l3 ok.l3 aBody (tokStart_ident (VariantD.of_ok ok.first).name).app.app
  have a2 := (Acc.ident ok.name).thenSym d.l2 ok.l2 a3 symStart_cons
  have a1 := (Acc.str kwEnum).then d.l1 ok.l1 a2 ((tokStart_ident ok.name).app)
  exact (Acc.rule has_enum_type a1).castT rfl (by simp [EnumD.tokens, EnumD.text])

theorem fields_elemsOk (d : List (Field × Layout)) (hd : ∀ fl ∈ d, fl.1.ok = true ∧ fl.2.ok = true) (r : List Char) (hr : Starts '}' r) :
    elemsOk (.ref "struct_data_field") r (d.map (fieldElem "struct_data_field")) := by
  refine (elemsOk_of (fun _ => True) NoLayoutStart r (Starts.ahead hr ⟨by decide, by decide⟩) (fun _ h => h)
    (fun _ _ _ _ => trivial) (fun x hx => ?_)).1
  obtain ⟨fl, hmem, rfl⟩ := List.mem_map.mp hx
  have hok := hd fl hmem
  obtain ⟨c, cs, e, _, _⟩ := tokStart_field hok.1
  exact ⟨by simp [fieldElem, e], hok.2, Acc.rule has_struct_data_field (Acc.field fl.1 hok.1), fun y => (tokStart_field hok.1).noLayout⟩

theorem Acc.structD (d : StructD) (h : d.ok = true) : Acc (.ref "struct_type") d.text d.tokens (fun _ => True) := by
  have ok := StructD.of_ok h
  have a3 := Acc.block d.l3 d.l4 ok.l3 ok.l4
    (Rej.rule has_struct_data_field (Rej.dataField.mono (fun r hr => Starts.ahead hr (by decide)))) _
    (fields_elemsOk d.fields ok.fields) fun el hel => by
      obtain ⟨fl, hfl, rfl⟩ := List.mem_map.mp hel
      exact tokStart_field (ok.fields fl hfl).1
  have a2 := (Acc.ident ok.name).thenSym d.l2 ok.l2 a3 symStart_cons
  have a1 := (Acc.str kwStruct).then d.l1 ok.l1 a2 ((tokStart_ident ok.name).app)
  exact (Acc.rule has_struct_type a1).castT rfl (by simp [StructD.tokens, StructD.text])

end Fx.Parse
