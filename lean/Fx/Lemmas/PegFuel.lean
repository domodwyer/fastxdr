/-
  Fx.Lemmas.PegFuel — the recursion budget of the parser model is not observable: once a parse answers
  (accepts or rejects), every larger budget gives the same answer, tokens included.
-/
import Fx.Lemmas.PegEval
namespace Fx.Peg

def Same (r r' : PR) : Prop := r ≠ .outOfFuel → r' = r

theorem Same.refl {r : PR} : Same r r := fun _ => rfl

theorem Same.outOfFuel {r : PR} : Same .outOfFuel r := fun h => absurd rfl h

theorem Same.on {r r' d d' : PR} {k k' : St → List Pair → PR} (hr : Same r r') (hk : ∀ s t, Same (k s t) (k' s t))
    (hd : Same d d') : Same (r.on k d) (r'.on k' d') := by
  cases r with
  | outOfFuel => exact .outOfFuel
  | ok s t =>
    rw [hr (fun h => nomatch h)]
    exact hk s t
  | fail =>
    rw [hr (fun h => nomatch h)]
    exact hd

theorem Same.ite {c : Prop} [Decidable c] {a a' b b' : PR} (ha : Same a a') (hb : Same b b') :
    Same (if c then a else b) (if c then a' else b') := by
  split <;> assumption

theorem fuel_succ (g : Grammar) (f : Nat) :
    (∀ atomic e s, Same (eval g f atomic e s) (eval g (f + 1) atomic e s)) ∧
    (∀ atomic e s acc, Same (repeatMore g f atomic e s acc) (repeatMore g (f + 1) atomic e s acc)) ∧
    (∀ atomic n s, Same (evalRule g f atomic n s) (evalRule g (f + 1) atomic n s)) ∧
    (∀ s, Same (skipWs g f s) (skipWs g (f + 1) s)) ∧
    (∀ s, Same (skip g f s) (skip g (f + 1) s)) := by
  induction f with
  | zero =>
    simp only [eval_zero, repeatMore_zero, evalRule_zero, skipWs_zero, skip_zero]
    exact ⟨fun _ _ _ => .outOfFuel, fun _ _ _ _ => .outOfFuel, fun _ _ _ => .outOfFuel, fun _ => .outOfFuel, fun _ => .outOfFuel⟩
  | succ f ih =>
    obtain ⟨ihE, ihR, ihU, ihW, ihS⟩ := ih
    have ihK : ∀ a s, Same (skipIf g f a s) (skipIf g (f + 1) a s) := by
      intro a s
      cases a with
      | false => exact ihS s
      | true => exact .refl
    refine ⟨fun atomic e s => ?_, fun atomic e s acc => ?_, fun atomic n s => ?_, fun s => ?_, fun s => ?_⟩
    · cases e with
      | str | any | soi | eoi | digit | alnum | newline =>
        simp only [eval_str, eval_any, eval_soi, eval_eoi, eval_digit, eval_alnum, eval_newline]
        exact .refl
      | ref n =>
        rw [eval_ref g (f + 1), eval_ref g f]
        exact ihU atomic n s
      | seq a b =>
        rw [eval_seq g (f + 1), eval_seq g f]
        exact (ihE atomic a s).on (fun s1 _ => (ihK atomic s1).on (fun s1' _ => (ihE atomic b s1').on (fun _ _ => .refl) .refl) .refl)
          .refl
      | alt a b =>
        rw [eval_alt g (f + 1), eval_alt g f]
        exact (ihE atomic a s).on (fun _ _ => .refl) (ihE atomic b s)
      | opt e =>
        rw [eval_opt g (f + 1), eval_opt g f]
        exact (ihE atomic e s).on (fun _ _ => .refl) .refl
      | not e =>
        rw [eval_not g (f + 1), eval_not g f]
        exact (ihE atomic e s).on (fun _ _ => .refl) .refl
      | star e =>
        rw [eval_star g (f + 1), eval_star g f]
        exact (ihE atomic e s).on (fun s1 t1 => ihR atomic e s1 t1) .refl
      | plus e =>
        rw [eval_plus g (f + 1), eval_plus g f]
        exact ihE atomic (.seq e (.star e)) s
    · rw [repeatMore_succ g (f + 1), repeatMore_succ g f]
      exact (ihK atomic s).on (fun s' _ => (ihE atomic e s').on (fun s2 t2 => Same.ite .refl (ihR atomic e s2 _)) .refl) .refl
    · rw [evalRule_succ g (f + 1), evalRule_succ g f]
      cases g.find n with
      | none => exact .refl
      | some r =>
        simp only
        refine Same.ite ((ihE true r.body s).on (fun _ _ => .refl) .refl) ?_
        cases r.ty with
        | silent => exact ihE atomic r.body s
        | normal => exact (ihE atomic r.body s).on (fun _ _ => .refl) .refl
        | atomic => exact (ihE true r.body s).on (fun _ _ => .refl) .refl
    · rw [skipWs_succ g (f + 1), skipWs_succ g f]
      exact (ihU true "WHITESPACE" s).on (fun s' _ => Same.ite .refl (ihW s')) .refl
    · rw [skip_succ g (f + 1), skip_succ g f]
      exact (ihW s).on (fun s1 _ => (ihU true "COMMENT" s1).on (fun s2 _ => Same.ite .refl (ihS s2)) .refl) .refl

theorem mono_of_succ (F : Nat → PR) (hs : ∀ f, Same (F f) (F (f + 1))) {f f' : Nat} {r : PR} (hff : f ≤ f') (h : F f = r)
    (hr : r ≠ .outOfFuel) : F f' = r := by
  induction hff with
  | refl => exact h
  | step _ ih => exact (hs _ (ih ▸ hr)).trans ih

section
variable (g : Grammar)

-- `hr` is an auto-parameter: at the uses `r` is `.ok _ _` or `.fail`, and `simp` sees it
theorem eval_lift {f f' : Nat} {at_ : Bool} {e : Expr} {s : St} {r : PR} (h : eval g f at_ e s = r) (hff : f ≤ f')
    (hr : r ≠ .outOfFuel := by simp) : eval g f' at_ e s = r :=
  mono_of_succ (fun f => eval g f at_ e s) (fun f => (fuel_succ g f).1 at_ e s) hff h hr

theorem repeatMore_lift {f f' : Nat} {at_ : Bool} {e : Expr} {s : St} {acc : List Pair} {r : PR} (h : repeatMore g f at_ e s acc = r)
    (hff : f ≤ f') (hr : r ≠ .outOfFuel := by simp) : repeatMore g f' at_ e s acc = r :=
  mono_of_succ (fun f => repeatMore g f at_ e s acc) (fun f => (fuel_succ g f).2.1 at_ e s acc) hff h hr

theorem evalRule_lift {f f' : Nat} {at_ : Bool} {n : String} {s : St} {r : PR} (h : evalRule g f at_ n s = r) (hff : f ≤ f')
    (hr : r ≠ .outOfFuel := by simp) : evalRule g f' at_ n s = r :=
  mono_of_succ (fun f => evalRule g f at_ n s) (fun f => (fuel_succ g f).2.2.1 at_ n s) hff h hr

theorem skipWs_lift {f f' : Nat} {s : St} {r : PR} (h : skipWs g f s = r) (hff : f ≤ f') (hr : r ≠ .outOfFuel := by simp) :
    skipWs g f' s = r :=
  mono_of_succ (fun f => skipWs g f s) (fun f => (fuel_succ g f).2.2.2.1 s) hff h hr

theorem skip_lift {f f' : Nat} {s : St} {r : PR} (h : skip g f s = r) (hff : f ≤ f') (hr : r ≠ .outOfFuel := by simp) :
    skip g f' s = r :=
  mono_of_succ (fun f => skip g f s) (fun f => (fuel_succ g f).2.2.2.2 s) hff h hr

end

end Fx.Peg
