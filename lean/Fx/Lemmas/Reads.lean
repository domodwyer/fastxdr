/-
  Fx.Lemmas.Reads — `Reads enc dec S T ρ`, the relation between a decoder and the reference (its two directions are C01 and
  C05/C06), and the plan nodes that read without recursion: the runtime readers at the leaf types.
-/
import Fx.Lemmas.Typed
import Fx.Lemmas.Consumed
namespace Fx

/-- the allocation log is left free -/
def DecOk {α} (r : Res α) (v : α) (off : Nat) (data : List Byte) : Prop := ∃ l', r = .ok v ⟨off, data, l'⟩

theorem DecOk.intro {α} {r : Res α} {v : α} {off : Nat} {data : List Byte} (l : List Ev) (h : r = .ok v ⟨off, data, l⟩) :
    DecOk r v off data := ⟨l, h⟩

theorem DecOk.bind {α β} {r : Res α} {f : α → Cur → Res β} {v : α} {off data} {w : β} {off' data'}
    (h1 : DecOk r v off data) (h2 : ∀ l, DecOk (f v ⟨off, data, l⟩) w off' data') : DecOk (r.bind f) w off' data' := by
  obtain ⟨l1, e1⟩ := h1
  rw [e1]
  exact h2 l1

theorem DecOk.map {α β} {r : Res α} {g : α → β} {v : α} {off data} (h : DecOk r v off data) : DecOk (r.map g) (g v) off data := by
  obtain ⟨l1, e1⟩ := h
  exact .intro l1 (by rw [e1]; rfl)

/-- `complete` is C01 (`S`: enough fuel); `sound` is C05/C06, on ANY input.  Neither gives the other: padding is skipped unread, so
    an accepted input need not be an encoding. -/
structure Reads {α ξ : Type} (enc : ξ → List Byte) (dec : Cur → Res α) (S : ξ → Prop) (T : ξ → Bool) (ρ : Nat → ξ → α) :
    Prop where
  complete : ∀ x, T x = true → S x → ∀ off s l, DecOk (dec ⟨off, enc x ++ s, l⟩) (ρ off x) (off + (enc x).length) s
  sound : ∀ c v c', dec c = .ok v c' → ∃ x, T x = true ∧ v = ρ c.off x ∧ c'.off = c.off + (enc x).length

theorem Reads.congr {α ξ : Type} {enc : ξ → List Byte} {dec dec' : Cur → Res α} {S S' : ξ → Prop} {T T' : ξ → Bool}
    {ρ ρ' : Nat → ξ → α} (h : Reads enc dec S T ρ) (hd : ∀ c, dec' c = dec c) (hS : ∀ x, S' x → S x)
    (hT : ∀ x, T' x = T x) (hρ : ∀ off x, T x = true → ρ' off x = ρ off x) : Reads enc dec' S' T' ρ' where
  complete x hx hs off s l := by rw [hd, hρ off x (hT x ▸ hx)]; exact h.complete x (hT x ▸ hx) (hS x hs) off s l
  sound c v c' hc := by
    obtain ⟨x, hx, hv, ho⟩ := h.sound c v c' (hd c ▸ hc)
    exact ⟨x, (hT x).trans hx, hv.trans (hρ c.off x hx).symm, ho⟩

/- A sufficient budget, not a tight one.  4 per nesting level: the longest chain from one `evalImpl` to the next (Impl →
   Fields → Field → Basic → Impl); 6 for a union, whose discriminant may be an enum (Basic → Impl once more); 3 per list
   element, 1 for the empty list (`evalRepeat`/`evalFields` still spend a unit); the 3 of a leaf is slack (0 would do). -/
mutual
def XVal.fsize : XVal → Nat
  | .varArr xs => xs.fsize + 4
  | .fixedArr xs => xs.fsize + 4
  | .optSome v => v.fsize + 4
  | .struct fs => fs.fsize + 4
  | .union _ arm => arm.fsize + 6
  | .alias v => v.fsize + 4
  | _ => 3
def XVals.fsize : XVals → Nat
  | .nil => 1
  | .cons v vs => v.fsize + vs.fsize + 3
end

theorem readBool_enc (b : Bool) (o : Nat) (s : List Byte) (l) :
    readBool ⟨o, be32 (if b then 1 else 0) ++ s, l⟩ = .ok b ⟨o + 4, s, l⟩ := by
  cases b
  · exact readBool_be32 0 (by decide) o s l
  · exact readBool_be32 1 (by decide) o s l

theorem readVariableBytes_enc (bs s : List Byte) (hl : bs.length < 2^32) (max : Option Nat)
    (hm : overLimit max bs.length = false) (o : Nat) (l) :
    readVariableBytes max ⟨o, be32 bs.length ++ bs ++ zeros (padLen bs.length) ++ s, l⟩ =
      .ok (.bytes (o + 4) bs) ⟨o + (4 + bs.length + padLen bs.length), s, l⟩ := by
  simp only [readVariableBytes, List.append_assoc, readU32_be32 _ hl, Res.bind_ok, hm, Bool.false_eq_true, if_false]
  have := readBytes_enc bs s (o + 4) l
  rw [List.append_assoc] at this
  rw [this]
  congr 2
  omega

theorem readString_enc (bs s : List Byte) (hl : bs.length < 2^32) (hu : utf8Valid bs = true) (max : Option Nat)
    (hm : overLimit max bs.length = false) (o : Nat) (l) :
    readString max ⟨o, be32 bs.length ++ bs ++ zeros (padLen bs.length) ++ s, l⟩ =
      .ok (.str bs) ⟨o + (4 + bs.length + padLen bs.length), s, l ++ [.str bs.length]⟩ := by
  simp only [readString, readVariableBytes_enc bs s hl max hm, Res.bind_ok, payloadOf, hu, if_true, Cur.addLog]

theorem be64_len (n : Nat) : (be64 n).length = 8 := be64_length n

theorem readVariableBytes_sound {m : Option Nat} {c : Cur} {v : Val} {c' : Cur} (h : readVariableBytes m c = .ok v c') :
    ∃ bs : List Byte, v = .bytes (c.off + 4) bs ∧ bs.length < 2^32 ∧ overLimit m bs.length = false ∧
      c'.off = c.off + (4 + bs.length + padLen bs.length) := by
  obtain ⟨n, rfl, hr, hn, hov, rfl⟩ := readVariableBytes_ok h
  have hlen : ((c.data.drop 4).take n).length = n := by
    simp [Cur.remaining] at hr ⊢
    omega
  refine ⟨_, rfl, hlen.symm ▸ hn, hlen.symm ▸ hov, ?_⟩
  simp only [hlen, Cur.advance_off]
  omega

theorem readString_sound {m : Option Nat} {c : Cur} {v : Val} {c' : Cur} (h : readString m c = .ok v c') :
    ∃ bs : List Byte, v = .str bs ∧ bs.length < 2^32 ∧ overLimit m bs.length = false ∧ utf8Valid bs = true ∧
      c'.off = c.off + (4 + bs.length + padLen bs.length) := by
  obtain ⟨b, c1, h1, hu, rfl, rfl⟩ := readString_ok h
  obtain ⟨bs, rfl, hl, hov, hoff⟩ := readVariableBytes_sound h1
  exact ⟨bs, rfl, hl, hov, hu, hoff⟩

theorem reads_fixedBytes {a : Ast} {sz : ArraySize} {n : Nat} (hn : boundValue a sz = some n) {S : XVal → Prop} :
    Reads XVal.enc (readBytes n) S (hasType a (.fixed .opaque sz)) (repr a (.fixed .opaque sz)) where
  complete x hx _ off s l := by
    obtain ⟨bs, rfl, rfl⟩ := fixedHasType_opaque.mp (hasType_fixed hn ▸ hx)
    exact .intro l (by simp only [XVal.enc, readBytes_enc, repr, List.length_append, zeros_length])
  sound c v c' h := by
    obtain ⟨hc, hl, hv⟩ := readBytes_ok h
    have hlen : (c.data.take n).length = n := List.length_take_of_le (Nat.le_of_add_right_le hl)
    exact ⟨.fixedOpaque (c.data.take n), hasType_fixed hn ▸ fixedHasType_opaque.mpr ⟨_, rfl, hlen⟩, by simp only [hv, repr],
      by simp [hc, XVal.enc, hlen]⟩

theorem reads_varBytes {a : Ast} {m : Option ArraySize} {lim : Option Nat} (hlim : limitOf a m = some lim) {S : XVal → Prop} :
    Reads XVal.enc (readVariableBytes lim) S (hasType a (.variable .opaque m)) (repr a (.variable .opaque m)) where
  complete x hx _ off s l := by
    obtain ⟨bs, rfl, hw⟩ := varHasType_opaque.mp (hasType_variable hlim ▸ hx)
    obtain ⟨hl, hm⟩ := withinLimit_iff.mp hw
    exact .intro l (by simp only [XVal.enc, readVariableBytes_enc bs s hl lim hm, repr, List.length_append, be32_length, zeros_length])
  sound c v c' h := by
    obtain ⟨bs, rfl, hl, hov, hoff⟩ := readVariableBytes_sound h
    exact ⟨.varOpaque bs, hasType_variable hlim ▸ varHasType_opaque.mpr ⟨_, rfl, withinLimit_iff.mpr ⟨hl, hov⟩⟩,
      by simp only [repr],
      by simp [XVal.enc, hoff]; omega⟩

theorem reads_varString {a : Ast} {m : Option ArraySize} {lim : Option Nat} (hlim : limitOf a m = some lim) {S : XVal → Prop} :
    Reads XVal.enc (readString lim) S (hasType a (.variable .string m)) (repr a (.variable .string m)) where
  complete x hx _ off s l := by
    obtain ⟨bs, rfl, hw, hu⟩ := varHasType_string.mp (hasType_variable hlim ▸ hx)
    obtain ⟨hl, hm⟩ := withinLimit_iff.mp hw
    exact .intro (l ++ [.str bs.length]) (by
      simp only [XVal.enc, readString_enc bs s hl hu lim hm, repr, List.length_append, be32_length, zeros_length])
  sound c v c' h := by
    obtain ⟨bs, rfl, hl, hov, hu, hoff⟩ := readString_sound h
    exact ⟨.str bs, hasType_variable hlim ▸ varHasType_string.mpr ⟨_, rfl, withinLimit_iff.mpr ⟨hl, hov⟩, hu⟩,
      by simp only [repr],
      by simp [XVal.enc, hoff]; omega⟩

theorem prim_sound {a : Ast} {t : BasicType} {pr : Prim} (hp : decodeBasicAlias t = .prim pr) {c : Cur} {v : Val} {c' : Cur}
    (h : readPrim pr c = .ok v c') :
    ∃ x, hasTypeBasic a t x = true ∧ v = reprBasic a t c.off x ∧ c'.off = c.off + x.enc.length := by
  -- every primitive reader moves by `wire_size()` of its result: 4 or 8, the length of the encoding
  have hoff := (readPrim_advBy ⟨[], []⟩ h).off
  cases t <;> cases hp <;> obtain ⟨n, h1, rfl⟩ := Res.map_eq_ok h
  · exact ⟨.u32 n, by simp [hasTypeBasic, (readU32_ok h1).2.2.1], by simp [reprBasic], hoff⟩
  · exact ⟨.u64 n, by simp [hasTypeBasic, (readU64_ok h1).2.2], by simp [reprBasic], hoff⟩
  · obtain ⟨m, h2, rfl⟩ := Res.map_eq_ok h1
    exact ⟨.i32 (toSigned 32 m), by simpa [hasTypeBasic] using toSigned_range_32 m (readU32_ok h2).2.2.1, by simp [reprBasic], hoff⟩
  · obtain ⟨m, h2, rfl⟩ := Res.map_eq_ok h1
    exact ⟨.i64 (toSigned 64 m), by simpa [hasTypeBasic] using toSigned_range_64 m (readU64_ok h2).2.2, by simp [reprBasic], hoff⟩
  · exact ⟨.f32 n, by simp [hasTypeBasic, (readU32_ok h1).2.2.1], by simp [reprBasic], hoff⟩
  · exact ⟨.f64 n, by simp [hasTypeBasic, (readU64_ok h1).2.2], by simp [reprBasic], hoff⟩
  · exact ⟨.bool n, by simp [hasTypeBasic], by simp [reprBasic], hoff⟩

theorem reads_leaf (a : Ast) (P : Plans) {t : BasicType} (ht : ∀ n, t ≠ .ident n) (fuel : Nat) {S : XVal → Prop} :
    Reads XVal.enc (evalBasic a P (fuel + 1) (decodeBasicAlias t)) S (hasTypeBasic a t) (reprBasic a t) where
  complete x h hS off s l := by
    clear hS
    rw [hasTypeBasic.eq_def] at h
    split at h
    · exact .intro l (by simp [decodeBasicAlias, evalBasic, readPrim, Res.map, XVal.enc, readU32_be32 _ (of_decide_eq_true h), reprBasic])
    · simp only [Bool.and_eq_true, decide_eq_true_eq] at h
      exact .intro l (by simp [decodeBasicAlias, evalBasic, readPrim, readI32, Res.map, XVal.enc, readU32_be32 _ (ofSigned_lt_32 _), reprBasic,
        toSigned_ofSigned_32 _ h.1 h.2])
    · exact .intro l (by simp [decodeBasicAlias, evalBasic, readPrim, Res.map, XVal.enc, readU64_be64 _ (of_decide_eq_true h), reprBasic])
    · simp only [Bool.and_eq_true, decide_eq_true_eq] at h
      exact .intro l (by simp [decodeBasicAlias, evalBasic, readPrim, readI64, Res.map, XVal.enc, readU64_be64 _ (ofSigned_lt_64 _), reprBasic,
        toSigned_ofSigned_64 _ h.1 h.2])
    · exact .intro l (by simp [decodeBasicAlias, evalBasic, readPrim, readF32, Res.map, XVal.enc, readU32_be32 _ (of_decide_eq_true h), reprBasic])
    · exact .intro l (by simp [decodeBasicAlias, evalBasic, readPrim, readF64, Res.map, XVal.enc, readU64_be64 _ (of_decide_eq_true h), reprBasic])
    · exact .intro l (by simp [decodeBasicAlias, evalBasic, readPrim, Res.map, XVal.enc, readBool_enc, reprBasic])
    · rename_i bs
      simp only [Bool.and_eq_true, decide_eq_true_eq] at h
      exact .intro (l ++ [.str bs.length]) (by simp only [decodeBasicAlias, evalBasic, XVal.enc, readString_enc bs s h.1 h.2 none rfl,
        reprBasic, List.length_append, be32_length, zeros_length])
    · rename_i bs
      exact .intro l (by simp only [decodeBasicAlias, evalBasic, XVal.enc, readVariableBytes_enc bs s (of_decide_eq_true h) none rfl,
        reprBasic, List.length_append, be32_length, zeros_length])
    · exact absurd rfl (ht _)
    · cases h
  sound c v c' h := by
    cases hd : decodeBasicAlias t with
    | prim pr =>
      rw [hd] at h
      exact prim_sound hd h
    | string =>
      rw [hd] at h
      obtain rfl : t = .string := by cases t <;> simp [decodeBasicAlias] at hd <;> rfl
      obtain ⟨bs, rfl, hl, _, hu, hoff⟩ := readString_sound h
      exact ⟨.str bs, by simp [hasTypeBasic, hl, hu], by simp [reprBasic], by simp [XVal.enc, hoff]; omega⟩
    | «opaque» =>
      rw [hd] at h
      obtain rfl : t = .opaque := by cases t <;> simp [decodeBasicAlias] at hd <;> rfl
      obtain ⟨bs, rfl, hl, _, hoff⟩ := readVariableBytes_sound h
      exact ⟨.varOpaque bs, by simp [hasTypeBasic, hl], by simp [reprBasic], by simp [XVal.enc, hoff]; omega⟩
    | tryFrom n =>
      exact absurd (by cases t <;> simp [decodeBasicAlias] at hd; subst hd; rfl) (ht n)

end Fx
