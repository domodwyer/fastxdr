/-
  Fx.Lemmas.Shift — position independence: running a decoder on the same bytes placed `δ` further into a larger
  allocation gives the same result, every opaque leaf being the same window moved by `δ`.  `Shf` is no `Closed` predicate, although
  `Loc` (which also compares two buffers) is: `Closed.bind` hands the same value to the continuation in both runs, and a shifted
  run hands on a shifted value (`Shf.bind` relates `k (g v)` to `k v`).
-/
import Fx.Lemmas.EvalBasics
namespace Fx

mutual
def Val.shift (δ : Nat) : Val → Val
  | .bytes off bs => .bytes (off + δ) bs
  | .vec xs => .vec (xs.shift δ)
  | .arr xs => .arr (xs.shift δ)
  | .some v => .some (v.shift δ)
  | .struct n fn fs => .struct n fn (fs.shift δ)
  | .tuple t x v => .tuple t x (v.shift δ)
  | .newtype n v => .newtype n (v.shift δ)
  | .u32 n => .u32 n | .u64 n => .u64 n | .i32 i => .i32 i | .i64 i => .i64 i
  | .f32 b => .f32 b | .f64 b => .f64 b | .bool b => .bool b | .str bs => .str bs
  | .none => .none | .unit t x => .unit t x | .cenum n m => .cenum n m
def Vals.shift (δ : Nat) : Vals → Vals
  | .nil => .nil
  | .cons v vs => .cons (v.shift δ) (vs.shift δ)
end

def Cur.shift (δ : Nat) (c : Cur) : Cur := ⟨c.off + δ, c.data, c.log⟩

def Res.shiftWith {α} (g : α → α) (δ : Nat) : Res α → Res α
  | .ok v c => .ok (g v) (c.shift δ)
  | .err e l => .err e l
  | .panic s => .panic s
  | .abort => .abort
  | .outOfFuel => .outOfFuel

@[simp] theorem Cur.shift_remaining (δ : Nat) (c : Cur) : (c.shift δ).remaining = c.remaining := rfl
@[simp] theorem Cur.shift_log (δ : Nat) (c : Cur) : (c.shift δ).log = c.log := rfl
@[simp] theorem Cur.shift_data (δ : Nat) (c : Cur) : (c.shift δ).data = c.data := rfl
@[simp] theorem Cur.shift_off (δ : Nat) (c : Cur) : (c.shift δ).off = c.off + δ := rfl
theorem Cur.shift_advance (δ k : Nat) (c : Cur) : (c.shift δ).advance k = (c.advance k).shift δ := by
  simp [Cur.shift, Cur.advance]; omega
theorem Cur.shift_stepped (δ k : Nat) (c : Cur) (l : List Ev) : (c.shift δ).stepped k l = (c.stepped k l).shift δ := by
  simp [Cur.shift, Cur.stepped, Cur.advance]; omega
theorem Cur.shift_addLog (δ : Nat) (c : Cur) (e : Ev) : (c.shift δ).addLog e = (c.addLog e).shift δ := rfl

def Shf {α} (δ : Nat) (g : α → α) (f : Cur → Res α) : Prop := ∀ c, f (c.shift δ) = (f c).shiftWith g δ

theorem Res.shiftWith_bind {α β} {δ : Nat} {g : α → α} {h : β → β} {r r' : Res α} {k k' : α → Cur → Res β}
    (hr : r' = r.shiftWith g δ) (hk : ∀ v c, k' (g v) (c.shift δ) = (k v c).shiftWith h δ) :
    r'.bind k' = (r.bind k).shiftWith h δ := by
  subst hr
  cases r with
  | ok v c1 => exact hk v c1
  | _ => rfl

theorem Shf.bind {α β} {δ : Nat} {g : α → α} {h : β → β} {f : Cur → Res α} {k : α → Cur → Res β}
    (hf : Shf δ g f) (hk : ∀ v c, k (g v) (c.shift δ) = (k v c).shiftWith h δ) : Shf δ h (fun c => (f c).bind k) :=
  fun c => Res.shiftWith_bind (hf c) hk

theorem Shf.map {α β} {δ : Nat} {f : Cur → Res α} (w : α → β) (s : β → β) (hf : Shf δ id f) (hw : ∀ v, s (w v) = w v) :
    Shf δ s (fun c => (f c).map w) :=
  Shf.bind hf fun v c => by simp [Res.shiftWith, hw]

theorem Shf.fail {α} {δ : Nat} {g : α → α} (r : Cur → Res α) (h : ∀ c, r (c.shift δ) = r c) (h2 : ∀ c v c', r c ≠ .ok v c') : Shf δ g r := by
  intro c
  rw [h c]
  cases hr : r c with
  | ok v c' => exact absurd hr (h2 c v c')
  | _ => rfl

mutual
theorem Val.ws_shift (p : Plans) (δ : Nat) : ∀ (v : Val), wsVal p (v.shift δ) = wsVal p v
  | .bytes off bs => by simp [Val.shift, wsVal]
  | .vec xs => by simp only [Val.shift, wsVal, Vals.wsSum_shift p δ xs]
  | .arr xs => by simp only [Val.shift, wsVal, Vals.wsSum_shift p δ xs]
  | .some v => by simp only [Val.shift, wsVal, Val.ws_shift p δ v]
  | .struct n fn fs => by
    simp only [Val.shift, wsVal]
    cases hfs : p.findSize n with
    | none => rfl
    | some si =>
      obtain ⟨a, b, body⟩ := si
      cases body with
      | struct sfs => simp only [Vals.wsFields_shift p δ fs sfs]
      | union _ => rfl
      | enum => rfl
      | typedef _ _ => rfl
  | .tuple t x v => by simp only [Val.shift, wsVal, Val.ws_shift p δ v]
  | .newtype n v => by simp only [Val.shift, wsVal, Val.ws_shift p δ v]
  | .u32 _ => rfl | .u64 _ => rfl | .i32 _ => rfl | .i64 _ => rfl
  | .f32 _ => rfl | .f64 _ => rfl | .bool _ => rfl | .str _ => rfl
  | .none => rfl | .unit _ _ => rfl | .cenum _ _ => rfl
theorem Vals.wsSum_shift (p : Plans) (δ : Nat) : ∀ (vs : Vals), wsSum p (vs.shift δ) = wsSum p vs
  | .nil => rfl
  | .cons v vs => by simp only [Vals.shift, wsSum, Val.ws_shift p δ v, Vals.wsSum_shift p δ vs]
theorem Vals.wsFields_shift (p : Plans) (δ : Nat) : ∀ (vs : Vals) (sfs : List SizeField), wsFields p sfs (vs.shift δ) = wsFields p sfs vs
  | .nil, sfs => by cases sfs <;> simp [Vals.shift, wsFields]
  | .cons v vs, [] => by simp only [Vals.shift, wsFields, Val.ws_shift p δ v, Vals.wsFields_shift p δ vs []]
  | .cons v vs, f :: rest => by simp only [Vals.shift, wsFields, Val.ws_shift p δ v, Vals.wsFields_shift p δ vs rest]
end

theorem patMatches_shift (a : Ast) (pt : Pat) (δ : Nat) (v : Val) : patMatches a pt (v.shift δ) = patMatches a pt v := by
  cases v <;> rfl

theorem asI32_shift (a : Ast) (δ : Nat) (v : Val) : asI32 a (v.shift δ) = asI32 a v := by
  cases v <;> rfl

theorem payloadOf_shift (δ : Nat) (v : Val) : payloadOf (v.shift δ) = payloadOf v := by
  cases v <;> rfl

theorem selectArm_shift (a : Ast) (δ : Nat) (v : Val) : ∀ (arms : List Arm), selectArm a (v.shift δ) arms = selectArm a v arms
  | [] => rfl
  | arm :: rest => by simp only [selectArm, patMatches_shift, selectArm_shift a δ v rest]

theorem Vals.shift_snoc (δ : Nat) : ∀ (vs : Vals) (v : Val), (vs.snoc v).shift δ = (vs.shift δ).snoc (v.shift δ)
  | .nil, v => by simp [Vals.snoc, Vals.shift]
  | .cons x xs, v => by simp [Vals.snoc, Vals.shift, Vals.shift_snoc δ xs v]

theorem readRaw_shf {α} (δ k : Nat) {g g' : Nat → List Byte → α} {s : α → α} (hs : ∀ o bs, g' (o + δ) bs = s (g o bs))
    (c : Cur) : readRaw k g' (c.shift δ) = (readRaw k g c).shiftWith s δ := by
  unfold readRaw
  simp only [Cur.shift_remaining, Cur.shift_log, Cur.shift_off, Cur.shift_data, Cur.shift_advance, hs]
  split <;> rfl

theorem readU32_shf (δ : Nat) : Shf δ id readU32 := fun c => by
  simp only [readU32_eq]
  exact readRaw_shf δ 4 (fun _ _ => by rfl) c

theorem readI32_shf (δ : Nat) : Shf δ id readI32 := Shf.map _ id (readU32_shf δ) (fun _ => rfl)

theorem readBytes_shf (δ n : Nat) : Shf δ (Val.shift δ) (readBytes n) := fun c => by
  simp only [readBytes_eq]
  exact readRaw_shf δ _ (fun _ _ => by rfl) c

theorem readVariableBytes_shf (δ : Nat) (m : Option Nat) : Shf δ (Val.shift δ) (readVariableBytes m) := by
  refine Shf.bind (readU32_shf δ) (fun n c => ?_)
  simp only [id]
  split
  · rfl
  · exact readBytes_shf δ n c

theorem readString_shf (δ : Nat) (m : Option Nat) : Shf δ (Val.shift δ) (readString m) := by
  refine Shf.bind (readVariableBytes_shf δ m) (fun b c => ?_)
  simp only [payloadOf_shift]
  split <;> rfl

theorem readPrim_shf (δ : Nat) (pr : Prim) : Shf δ (Val.shift δ) (readPrim pr) := by
  have u64 : Shf δ id readU64 := fun c => by
    simp only [readU64_eq]
    exact readRaw_shf δ 8 (fun _ _ => by rfl) c
  have bool : Shf δ id readBool := Shf.bind (readI32_shf δ) fun i c => by
    simp only [id]
    split
    · rfl
    · split <;> rfl
  cases pr
  · exact Shf.map _ _ (readU32_shf δ) (fun _ => rfl)
  · exact Shf.map _ _ u64 (fun _ => rfl)
  · exact Shf.map _ _ (readI32_shf δ) (fun _ => rfl)
  · exact Shf.map _ _ (Shf.map (toSigned 64) id u64 (fun _ => rfl)) (fun _ => rfl)
  · exact Shf.map _ _ (readU32_shf δ) (fun _ => rfl)
  · exact Shf.map _ _ u64 (fun _ => rfl)
  · exact Shf.map _ _ bool (fun _ => rfl)

theorem evalOpt_shf {δ : Nat} {eI : Cur → Res Val} (h : Shf δ (Val.shift δ) eI) : Shf δ (Val.shift δ) (evalOpt eI) := by
  refine Shf.bind (readU32_shf δ) fun m c1 => ?_
  simp only [id]
  split
  · rfl
  · split
    · exact Res.shiftWith_bind (h c1) fun _ _ => rfl
    · rfl

theorem arrLoop_shf (δ : Nat) (dec : Cur → Res Val) (ws : Val → Nat) (hd : Shf δ (Val.shift δ) dec)
    (hws : ∀ v, ws (v.shift δ) = ws v) :
    ∀ (k : Nat) (c : Cur) (sum : Nat) (acc : Vals),
      arrLoop dec ws k (c.shift δ) sum (acc.shift δ) =
        (arrLoop dec ws k c sum acc).shiftWith (fun r => (r.1.shift δ, r.2)) δ := by
  intro k
  induction k with
  | zero => exact fun _ _ _ => rfl
  | succ k ih =>
    intro c sum acc
    rw [arrLoop_succ, arrLoop_succ]
    refine Res.shiftWith_bind (hd c) fun t ct => ?_
    simp only [hws, Cur.shift_remaining, Cur.shift_log, Cur.shift_stepped, ← Vals.shift_snoc]
    split
    · rfl
    · exact ih _ _ _

theorem readVariableArray_shf {δ : Nat} {dec : Cur → Res Val} {ws : Val → Nat} (m : Option Nat)
    (hd : Shf δ (Val.shift δ) dec) (hws : ∀ v, ws (v.shift δ) = ws v) :
    Shf δ (Val.shift δ) (readVariableArray dec ws m) := by
  refine Shf.bind (readU32_shf δ) (fun n c1 => ?_)
  simp only [id]
  split
  · rfl
  · refine Res.shiftWith_bind (arrLoop_shf δ dec ws hd hws n (c1.addLog (.vec (min n c1.remaining))) 0 .nil) fun r c3 => ?_
    simp only [padSkip_eq]
    exact readRaw_shf δ _ (fun _ _ => by rfl) c3

theorem eval_shift (a : Ast) (p : Plans) (δ : Nat) (fuel : Nat) :
    Evals (fun n => Shf δ (Val.shift δ) (evalImpl a p fuel n)) (fun b => Shf δ (Val.shift δ) (evalBasic a p fuel b))
      (fun fd => Shf δ (Val.shift δ) (evalField a p fuel fd)) (fun k b => Shf δ (Vals.shift δ) (evalRepeat a p fuel k b))
      (fun fs => Shf δ (Vals.shift δ) (evalFields a p fuel fs)) := by
  induction fuel with
  | zero => exact ⟨fun _ _ => rfl, fun _ _ => rfl, fun _ _ => rfl, fun _ _ _ => rfl, fun _ _ => rfl⟩
  | succ f ih =>
    obtain ⟨ihI, ihB, ihF, ihR, ihFs⟩ := ih
    refine ⟨fun n c => ?_, fun b c => ?_, fun fd c => ?_, fun k b c => ?_, fun fs c => ?_⟩
    · cases hfi : p.findImpl n with
      | none =>
        rw [evalImpl_none hfi, evalImpl_none hfi]
        rfl
      | some i =>
        cases hb : i.body with
        | struct fs =>
          rw [evalImpl_struct hfi hb, evalImpl_struct hfi hb]
          exact Res.shiftWith_bind (ihFs _ c) fun _ _ => rfl
        | union u =>
          rw [evalImpl_union hfi hb, evalImpl_union hfi hb]
          refine Res.shiftWith_bind (ihB _ c) fun d c1 => ?_
          simp only [evalArms, selectArm_shift, asI32_shift]
          cases selectArm a d u.arms with
          | some arm =>
            dsimp only
            cases arm.payload with
            | some fd => exact Res.shiftWith_bind (ihF _ c1) fun _ _ => rfl
            | none => rfl
          | none =>
            dsimp only
            cases u.tail with
            | defaultData fd => exact Res.shiftWith_bind (ihF _ c1) fun _ _ => rfl
            | _ => rfl
        | enum arms =>
          rw [evalImpl_enum hfi hb, evalImpl_enum hfi hb]
          refine Res.shiftWith_bind (readI32_shf δ c) fun x c1 => ?_
          simp only [id]
          split <;> rfl
        | typedef fd =>
          rw [evalImpl_typedef hfi hb, evalImpl_typedef hfi hb]
          exact Res.shiftWith_bind (ihF _ c) fun _ _ => rfl
    · cases b with
      | prim pr => exact readPrim_shf δ pr c
      | string => exact readString_shf δ none c
      | «opaque» => exact readVariableBytes_shf δ none c
      | tryFrom n => exact ihI n c
    · cases fd with
      | one b => exact ihB b c
      | fixedBytes n => exact readBytes_shf δ n c
      | fixedArr n b => exact Res.shiftWith_bind (ihR n b c) fun _ _ => rfl
      | varBytes m => exact readVariableBytes_shf δ m c
      | varString m => exact readString_shf δ m c
      | varArr ty g m => exact readVariableArray_shf m (ihI ty) (Val.ws_shift p δ) c
    · cases k with
      | zero => rfl
      | succ k =>
        exact Res.shiftWith_bind (ihB b c) fun v c1 => Res.shiftWith_bind (ihR k b c1) fun _ _ => rfl
    · cases fs with
      | nil => rfl
      | cons fld rest =>
        rw [evalFields_cons, evalFields_cons]
        refine Res.shiftWith_bind ?_ fun v c1 => Res.shiftWith_bind (ihFs rest c1) fun _ _ => rfl
        cases fld with
        | plain nm fd => exact ihF fd c
        | optional nm ty => exact evalOpt_shf (ihI ty) c

end Fx
