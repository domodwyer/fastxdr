/-
  Fx.Lemmas.Membership — the emitters look at the generic index only through membership tests.
  (The real index is a `HashSet` whose iteration order changes from process to process; nothing emitted can depend on it.)
-/
import Fx.Emit
namespace Fx

section
variable (c : List (String × ConstantType)) (t : List (String × AstType)) (l l' : List String)
variable (h : ∀ n, l'.contains n = l.contains n)
include h

theorem isGeneric_congr (n : String) : Ast.isGeneric ⟨c, l', t⟩ n = Ast.isGeneric ⟨c, l, t⟩ n := h n

omit h in
theorem decodeBasic_congr (ty : BasicType) (r : TypeResolve) : decodeBasic ⟨c, l', t⟩ ty r = decodeBasic ⟨c, l, t⟩ ty r := rfl

omit h in
theorem resolveSize_congr (s : ArraySize) : resolveSize ⟨c, l', t⟩ s = resolveSize ⟨c, l, t⟩ s := by
  cases s <;> rfl

omit h in
theorem printFixed_congr (ty : BasicType) (n : Nat) (r : TypeResolve) : printFixed ⟨c, l', t⟩ ty n r = printFixed ⟨c, l, t⟩ ty n r := rfl

theorem printVariable_congr (ty : BasicType) (sz : Option Nat) (r : TypeResolve) :
    printVariable ⟨c, l', t⟩ ty sz r = printVariable ⟨c, l, t⟩ ty sz r := by
  simp only [printVariable, isGeneric_congr c t l l' h]
  rfl

theorem decodeArray_congr (at_ : ArrayType) (r : TypeResolve) : decodeArray ⟨c, l', t⟩ at_ r = decodeArray ⟨c, l, t⟩ at_ r := by
  cases at_ with
  | none ty => rfl
  | fixed ty sz => rfl
  | «variable» ty m =>
    cases m with
    | none => simp only [decodeArray, printVariable_congr c t l l' h]
    | some sz =>
      simp only [decodeArray, resolveSize_congr c t l l']
      congr 1
      funext n
      exact printVariable_congr c t l l' h ty (some n) r

theorem emitStructField_congr (f : StructField) : emitStructField ⟨c, l', t⟩ f = emitStructField ⟨c, l, t⟩ f := by
  simp only [emitStructField, decodeArray_congr c t l l' h]

omit h in
theorem matcherOf_congr (sw : BasicType) (lab : String) : matcherOf ⟨c, l', t⟩ sw lab = matcherOf ⟨c, l, t⟩ sw lab := rfl

theorem emitCase_congr (sw : BasicType) (uc : UnionCase) : emitCase ⟨c, l', t⟩ sw uc = emitCase ⟨c, l, t⟩ sw uc := by
  simp only [emitCase, decodeArray_congr c t l l' h]
  rfl

omit h in
theorem emitVoid_congr (sw : BasicType) (lab : String) : emitVoid ⟨c, l', t⟩ sw lab = emitVoid ⟨c, l, t⟩ sw lab := rfl

theorem emitUnion_congr (u : Union) : emitUnion ⟨c, l', t⟩ u = emitUnion ⟨c, l, t⟩ u := by
  have e1 : emitCase ⟨c, l', t⟩ u.switch.varType = emitCase ⟨c, l, t⟩ u.switch.varType :=
    funext (emitCase_congr c t l l' h u.switch.varType)
  have e2 : emitVoid ⟨c, l', t⟩ u.switch.varType = emitVoid ⟨c, l, t⟩ u.switch.varType :=
    funext (emitVoid_congr c t l l' u.switch.varType)
  simp only [emitUnion, e1, e2, decodeArray_congr c t l l' h]
  rfl

theorem emitImpl_congr (ty : AstType) : emitImpl ⟨c, l', t⟩ ty = emitImpl ⟨c, l, t⟩ ty := by
  have e1 : emitStructField ⟨c, l', t⟩ = emitStructField ⟨c, l, t⟩ := funext (emitStructField_congr c t l l' h)
  cases ty <;> simp only [emitImpl, e1, emitUnion_congr c t l l' h, decodeArray_congr c t l l' h, isGeneric_congr c t l l' h]

theorem emitSize_congr (ty : AstType) : emitSize ⟨c, l', t⟩ ty = emitSize ⟨c, l, t⟩ ty := by
  cases ty <;> simp only [emitSize, isGeneric_congr c t l l' h]

theorem payloadTy_congr (at_ : ArrayType) : payloadTy ⟨c, l', t⟩ at_ = payloadTy ⟨c, l, t⟩ at_ := by
  simp only [payloadTy, isGeneric_congr c t l l' h]

theorem armTy_congr (at_ : ArrayType) : armTy ⟨c, l', t⟩ at_ = armTy ⟨c, l, t⟩ at_ := by
  simp only [armTy, isGeneric_congr c t l l' h, payloadTy_congr c t l l' h]

theorem targetGeneric_congr (b : BasicType) : Ast.targetGeneric ⟨c, l', t⟩ b = Ast.targetGeneric ⟨c, l, t⟩ b := by
  cases b <;> simp only [Ast.targetGeneric, isGeneric_congr c t l l' h]

theorem emitTypeDecl_congr (ty : AstType) : emitTypeDecl ⟨c, l', t⟩ ty = emitTypeDecl ⟨c, l, t⟩ ty := by
  cases ty <;> simp only [emitTypeDecl, isGeneric_congr c t l l' h, payloadTy_congr c t l l' h, armTy_congr c t l l' h,
    targetGeneric_congr c t l l' h]

theorem generateModule_membership_only : generateModule ⟨c, l', t⟩ = generateModule ⟨c, l, t⟩ := by
  have e1 : emitImpl ⟨c, l', t⟩ = emitImpl ⟨c, l, t⟩ := funext (emitImpl_congr c t l l' h)
  have e2 : emitSize ⟨c, l', t⟩ = emitSize ⟨c, l, t⟩ := funext (emitSize_congr c t l l' h)
  have e3 : emitTypeDecl ⟨c, l', t⟩ = emitTypeDecl ⟨c, l, t⟩ := funext (emitTypeDecl_congr c t l l' h)
  simp only [generateModule, emitFrom, emitWireSize, emitTypes, e1, e2, e3]

end

end Fx
