/-
  Fx.Lemmas.Terminates — one level of the termination argument, shared by Lemmas/Depth and Lemmas/Linear.  "Terminates": from
  some budget on the answer is never `outOfFuel` (and then stays the same: Lemmas/Fuel).  A body answers from its `cost` on, given
  budgets for the decoders it calls directly and for those behind the marker of `Option<Box<_>>` or the count of `Vec<_>`.
-/
import Fx.Finite
import Fx.Lemmas.Advance
namespace Fx

def Answers {α} (g : Cur → Res α) : Prop := ∀ c, g c ≠ .outOfFuel

theorem Res.bind_answers {α β} {r : Res α} {k : α → Cur → Res β} (h1 : r ≠ .outOfFuel)
    (h2 : ∀ v c, r = .ok v c → k v c ≠ .outOfFuel) : r.bind k ≠ .outOfFuel := by
  cases r with
  | ok v c => exact h2 v c rfl
  | err e l => intro h; cases h
  | panic s => intro h; cases h
  | abort => intro h; cases h
  | outOfFuel => exact absurd rfl h1

theorem readers_answers : Readers @Answers :=
  readers_closed {
    pure := fun _ _ => nofun
    err := fun _ _ => nofun
    bind := fun hf hg c => Res.bind_answers (hf c) (fun v c1 _ => hg v c1)
    raw := fun k g c => by
      unfold readRaw
      split <;> nofun }

theorem readString_answers (m : Option Nat) : Answers (readString m) := fun c => by
  refine Res.bind_answers (readers_answers.vbytes m c) (fun b c1 _ => ?_)
  simp only
  split <;> nofun

theorem arrLoop_answers (dec : Cur → Res Val) (ws : Val → Nat) (M : Nat)
    (hd : ∀ c, c.remaining ≤ M → dec c ≠ .outOfFuel) :
    ∀ (k : Nat) (c : Cur) (sum : Nat) (acc : Vals), c.remaining ≤ M → arrLoop dec ws k c sum acc ≠ .outOfFuel := by
  intro k
  induction k with
  | zero => exact fun _ _ _ _ => nofun
  | succ k ih =>
    intro c sum acc hc
    rw [arrLoop_succ]
    refine Res.bind_answers (hd c hc) fun t ct _ => ?_
    split
    · nofun
    · exact ih _ _ _ (Nat.le_trans (Cur.stepped_remaining .. ▸ Nat.sub_le _ _) hc)

theorem readVariableArray_answers {dec : Cur → Res Val} {ws : Val → Nat} {N : Nat} (m : Option Nat)
    (hd : ∀ c, c.remaining + 4 ≤ N → dec c ≠ .outOfFuel) {c : Cur} (hc : c.remaining ≤ N) :
    readVariableArray dec ws m c ≠ .outOfFuel := by
  refine Res.bind_answers (readers_answers.u32 c) (fun n c1 h1 => ?_)
  obtain ⟨e, l4, _, _⟩ := readU32_ok h1
  split
  · intro h; cases h
  · refine Res.bind_answers ?_ (fun os c3 _ => ?_)
    · refine arrLoop_answers dec ws (c.remaining - 4) (fun c' hc' => hd c' (by omega)) n _ 0 .nil ?_
      subst e
      simp [Cur.addLog, Cur.remaining] at *
    · simp only
      split
      · intro h; cases h
      · simp only [advanceP]
        split <;> (intro h; cases h)

theorem evalOpt_answers {eI : Cur → Res Val} {N : Nat} (hd : ∀ c, c.remaining + 4 ≤ N → eI c ≠ .outOfFuel) {c : Cur}
    (hc : c.remaining ≤ N) : evalOpt eI c ≠ .outOfFuel := by
  refine Res.bind_answers (readers_answers.u32 c) (fun m c1 h1 => ?_)
  obtain ⟨rfl, l4, _, _⟩ := readU32_ok h1
  split
  · nofun
  · split
    · refine Res.bind_answers (hd _ ?_) (fun _ _ _ => nofun)
      simp only [Cur.advance_remaining]
      omega
    · nofun

/- `cost`: the budget of an evaluator, given `recD` for the decoders it calls directly and `recG` for those behind a marker or
   count.  `need rec` (Fx.Finite) is `cost rec rec`; `need2 recD far` (Lemmas/Linear) is `cost recD (fun _ => far)`.
   * A sequence costs the MAX of its parts (`AnswersFrom.bind` wants one `F` on both sides: hence the `.mono`s), one unfolding `+ 1`.
   * `.fixedArr k b`: `repeat_cost`'s `k + need + 1` and `evalField`'s own step; `.varArr ty`: `recG ty` and that step;
     `.optional _ ty`: `recG ty` alone, `fieldsCost`'s `+ 1` pays the step.  A `BasicDec` has no guarded reference: its cost is `need`.
   * `OkG` is spelled out instead of `AnswersFrom (R - 4) …`: for `R < 4` that would ask for an answer on the empty buffer.
   * A new kind of reference goes into `allRefs`, and into `direct` iff no word is consumed before it is followed (`field_cost`
     and `fields_cost` take `OkG` over all of `allRefs` and use it at `.varArr` and `.optional` only). -/

def FieldDec.cost (recD recG : String → Nat) : FieldDec → Nat
  | .one b => b.need recD + 1
  | .fixedArr k b => k + b.need recD + 2
  | .varArr ty _ _ => recG ty + 1
  | _ => 1

def StructFieldDec.cost (recD recG : String → Nat) : StructFieldDec → Nat
  | .plain _ fd => fd.cost recD recG
  | .optional _ ty => recG ty

def fieldsCost (recD recG : String → Nat) : List StructFieldDec → Nat
  | [] => 1
  | f :: fs => max (f.cost recD recG) (fieldsCost recD recG fs) + 1

def payloadCost (recD recG : String → Nat) : Option FieldDec → Nat
  | some fd => fd.cost recD recG
  | none => 0

def armsCost (recD recG : String → Nat) : List Arm → Nat
  | [] => 0
  | x :: xs => max (payloadCost recD recG x.payload) (armsCost recD recG xs)

def Tail.cost (recD recG : String → Nat) : Tail → Nat
  | .defaultData fd => fd.cost recD recG
  | _ => 0

def ImplBody.cost (recD recG : String → Nat) : ImplBody → Nat
  | .struct fs => fieldsCost recD recG fs + 1
  | .union u => max (u.disc.need recD) (max (armsCost recD recG u.arms) (u.tail.cost recD recG)) + 1
  | .enum _ => 1
  | .typedef fd => fd.cost recD recG + 1

theorem payload_le_armsCost {recD recG : String → Nat} {arms : List Arm} {arm : Arm} (h : arm ∈ arms) :
    payloadCost recD recG arm.payload ≤ armsCost recD recG arms := by
  induction arms with
  | nil => cases h
  | cons x xs ih =>
    rcases List.mem_cons.mp h with rfl | h
    · exact Nat.le_max_left _ _
    · exact Nat.le_trans (ih h) (Nat.le_max_right _ _)

section need
variable (rec : String → Nat)

theorem FieldDec.need_eq (fd : FieldDec) : fd.need rec = fd.cost rec rec := by
  cases fd <;> rfl

theorem fieldsNeed_eq : ∀ fs, fieldsNeed rec fs = fieldsCost rec rec fs
  | [] => rfl
  | f :: fs => by
    have : f.need rec = f.cost rec rec := by
      cases f <;> simp [StructFieldDec.need, StructFieldDec.cost, FieldDec.need_eq]
    simp only [fieldsNeed, fieldsCost, this, fieldsNeed_eq fs]

theorem armsNeed_eq : ∀ arms, armsNeed rec arms = armsCost rec rec arms
  | [] => rfl
  | x :: xs => by
    have : x.need rec = payloadCost rec rec x.payload := by
      simp only [Arm.need]
      cases x.payload <;> simp [payloadCost, FieldDec.need_eq]
    simp only [armsNeed, armsCost, this, armsNeed_eq xs]

theorem ImplBody.need_eq (b : ImplBody) : b.need rec = b.cost rec rec := by
  cases b with
  | union u =>
    have : u.tail.need rec = u.tail.cost rec rec := by
      cases u.tail <;> simp [Tail.need, Tail.cost, FieldDec.need_eq]
    simp only [ImplBody.need, ImplBody.cost, armsNeed_eq, this]
  | _ => simp only [ImplBody.need, ImplBody.cost, fieldsNeed_eq, FieldDec.need_eq]

end need

def AnswersFrom {α} (R F : Nat) (ev : Nat → Cur → Res α) : Prop :=
  ∀ f, F ≤ f → ∀ c, c.remaining ≤ R → ev f c ≠ .outOfFuel

theorem AnswersFrom.mono {α} {R F F' : Nat} {ev : Nat → Cur → Res α} (h : AnswersFrom R F ev) (hF : F ≤ F') : AnswersFrom R F' ev :=
  fun f hf => h f (Nat.le_trans hF hf)

theorem AnswersFrom.succ {α} {R F : Nat} {ev body : Nat → Cur → Res α} (h : AnswersFrom R F body) (heq : ∀ f c, ev (f + 1) c = body f c) :
    AnswersFrom R (F + 1) ev := by
  intro f hf c hc
  obtain ⟨f', rfl⟩ : ∃ f', f = f' + 1 := ⟨f - 1, by omega⟩
  rw [heq]
  exact h f' (by omega) c hc

theorem AnswersFrom.of_answers {α} {R F : Nat} {ev : Nat → Cur → Res α} (h : ∀ f, Answers (ev f)) : AnswersFrom R F ev :=
  fun f _ c _ => h f c

theorem AnswersFrom.reader {α} {R : Nat} {ev : Nat → Cur → Res α} {g : Cur → Res α} (h : Answers g)
    (heq : ∀ f c, ev (f + 1) c = g c) : AnswersFrom R 1 ev :=
  (AnswersFrom.of_answers (F := 0) fun _ => h).succ heq

theorem AnswersFrom.ok {α} {R F : Nat} {v : α} : AnswersFrom R F (fun _ c => Res.ok v c) :=
  fun _ _ _ _ => nofun

theorem AnswersFrom.bind {α β} {R F : Nat} {ev : Nat → Cur → Res α} {k : Nat → α → Cur → Res β} (h1 : AnswersFrom R F ev)
    (hadv : ∀ f, Advs (ev f)) (h2 : ∀ v, AnswersFrom R F (fun f => k f v)) :
    AnswersFrom R F (fun f c => (ev f c).bind (k f)) :=
  fun f hf c hc => Res.bind_answers (h1 f hf c hc) (fun v c1 h => h2 v f hf c1 (Nat.le_trans (hadv f c v c1 h).remaining_le hc))

def OkD (a : Ast) (p : Plans) (recD : String → Nat) (R : Nat) (S : List String) : Prop :=
  ∀ m ∈ S, AnswersFrom R (recD m) (fun f => evalImpl a p f m)

/-- on buffers 4 bytes shorter (the word read first): this is what gives a recursive list type a budget -/
def OkG (a : Ast) (p : Plans) (recG : String → Nat) (R : Nat) (S : List String) : Prop :=
  ∀ m ∈ S, ∀ f, recG m ≤ f → ∀ c, c.remaining + 4 ≤ R → evalImpl a p f m c ≠ .outOfFuel

section level
variable {a : Ast} {p : Plans} {recD recG : String → Nat} {R : Nat}

theorem OkD.sub {S S' : List String} (h : OkD a p recD R S) (hs : ∀ m ∈ S', m ∈ S) : OkD a p recD R S' :=
  fun m hm => h m (hs m hm)

theorem OkG.sub {S S' : List String} (h : OkG a p recG R S) (hs : ∀ m ∈ S', m ∈ S) : OkG a p recG R S' :=
  fun m hm => h m (hs m hm)

theorem basic_cost (b : BasicDec) (h : OkD a p recD R b.direct) : AnswersFrom R (b.need recD) (fun f => evalBasic a p f b) := by
  cases b with
  | prim pr => exact AnswersFrom.reader (readers_answers.prim pr) (fun _ _ => rfl)
  | string => exact AnswersFrom.reader (readString_answers none) (fun _ _ => rfl)
  | «opaque» => exact AnswersFrom.reader (readers_answers.vbytes none) (fun _ _ => rfl)
  | tryFrom n => exact (h n List.mem_cons_self).succ (fun _ _ => rfl)

theorem repeat_cost (b : BasicDec) (h : OkD a p recD R b.direct) :
    ∀ k, AnswersFrom R (k + b.need recD + 1) (fun f => evalRepeat a p f k b)
  | 0 => (AnswersFrom.ok.succ (F := 0) (fun _ _ => rfl)).mono (by omega)
  | k + 1 => by
    refine AnswersFrom.mono (AnswersFrom.succ (F := k + b.need recD + 1) ?_ (fun _ _ => rfl)) (by omega)
    refine AnswersFrom.bind ((basic_cost b h).mono (by omega)) (fun f => (eval_adv a p f).basic b) (fun v => ?_)
    exact AnswersFrom.bind (repeat_cost b h k) (fun f => (eval_adv a p f).rep k b) (fun _ => AnswersFrom.ok)

theorem field_cost (fd : FieldDec) (hD : OkD a p recD R fd.direct) (hG : OkG a p recG R fd.allRefs) :
    AnswersFrom R (fd.cost recD recG) (fun f => evalField a p f fd) := by
  cases fd with
  | one b => exact (basic_cost b hD).succ (fun _ _ => rfl)
  | fixedBytes n => exact AnswersFrom.reader (readers_answers.bytes n) (fun _ _ => rfl)
  | fixedArr k b =>
    exact (AnswersFrom.bind (repeat_cost b hD k) (fun f => (eval_adv a p f).rep k b) (fun _ => AnswersFrom.ok)).succ (fun _ _ => rfl)
  | varBytes m => exact AnswersFrom.reader (readers_answers.vbytes m) (fun _ _ => rfl)
  | varString m => exact AnswersFrom.reader (readString_answers m) (fun _ _ => rfl)
  | varArr ty g m =>
    refine AnswersFrom.succ (body := fun f => readVariableArray (evalImpl a p f ty) (wsVal p) m) ?_ (fun _ _ => rfl)
    exact fun f hf c hc => readVariableArray_answers m (fun c' hc' => hG ty List.mem_cons_self f hf c' hc') hc

theorem fields_cost : ∀ (fs : List StructFieldDec), OkD a p recD R (fs.flatMap StructFieldDec.direct) →
    OkG a p recG R (fs.flatMap StructFieldDec.allRefs) → AnswersFrom R (fieldsCost recD recG fs) (fun f => evalFields a p f fs)
  | [], _, _ => AnswersFrom.ok.succ (fun _ _ => rfl)
  | fld :: fs, hD, hG => by
    -- `(fld :: fs).flatMap g` is `g fld ++ fs.flatMap g`
    have hrest := (fields_cost fs (hD.sub fun m hm => List.mem_append_right _ hm)
      (hG.sub fun m hm => List.mem_append_right _ hm)).mono (Nat.le_max_right (fld.cost recD recG) _)
    have htail : ∀ v : Val, AnswersFrom R (max (fld.cost recD recG) (fieldsCost recD recG fs))
        (fun f c => (evalFields a p f fs c).bind fun vs c'' => Res.ok (Vals.cons v vs) c'') :=
      fun v => AnswersFrom.bind hrest (fun f => (eval_adv a p f).fields fs) (fun _ => AnswersFrom.ok)
    have hDf : OkD a p recD R fld.direct := hD.sub fun m hm => List.mem_append_left _ hm
    have hGf : OkG a p recG R fld.allRefs := hG.sub fun m hm => List.mem_append_left _ hm
    cases fld with
    | plain nm fd =>
      exact (AnswersFrom.bind ((field_cost fd hDf hGf).mono (Nat.le_max_left _ _)) (fun f => (eval_adv a p f).field fd)
        htail).succ (fun _ _ => rfl)
    | optional nm ty =>
      refine AnswersFrom.succ (AnswersFrom.bind (ev := fun f => evalOpt (evalImpl a p f ty)) ?_
        (fun f => evalOpt_adv ((eval_adv a p f).impl ty)) htail) (fun _ _ => rfl)
      exact fun f hf c hc =>
        evalOpt_answers (fun c' hc' => hGf ty List.mem_cons_self f (Nat.le_trans (Nat.le_max_left _ _) hf) c' hc') hc

theorem impl_cost {n : String} {i : Impl} (hfi : p.findImpl n = some i) (hD : OkD a p recD R i.body.direct)
    (hG : OkG a p recG R i.body.allRefs) : AnswersFrom R (i.body.cost recD recG) (fun f => evalImpl a p f n) := by
  have advF := fun fd f => (eval_adv a p f).field fd
  cases hb : i.body with
  | struct fs =>
    rw [hb] at hD hG
    exact (AnswersFrom.bind (fields_cost fs hD hG) (fun f => (eval_adv a p f).fields fs) (fun _ => AnswersFrom.ok)).succ
      (evalImpl_struct hfi hb)
  | union u =>
    rw [hb] at hD hG
    refine AnswersFrom.succ (AnswersFrom.bind ((basic_cost u.disc (hD.sub fun m hm => ?_)).mono (Nat.le_max_left _ _))
      (fun f => (eval_adv a p f).basic u.disc) (fun d => ?_)) (evalImpl_union hfi hb)
    · exact List.mem_append_left _ (List.mem_append_left _ hm)
    · unfold evalArms
      cases hsel : selectArm a d u.arms with
      | some arm =>
        have hmem := selectArm_mem hsel
        dsimp only
        cases hpl : arm.payload with
        | none => exact AnswersFrom.ok
        | some fd =>
          have hle := payload_le_armsCost (recD := recD) (recG := recG) hmem
          rw [hpl] at hle
          refine AnswersFrom.bind ((field_cost fd (hD.sub fun m hm => ?_) (hG.sub fun m hm => ?_)).mono
            (Nat.le_trans hle (Nat.le_trans (Nat.le_max_left _ _) (Nat.le_max_right _ _)))) (advF fd) (fun _ => AnswersFrom.ok)
          · refine List.mem_append_left _ (List.mem_append_right _ (List.mem_flatMap.mpr ⟨arm, hmem, ?_⟩))
            simp only [Arm.direct, hpl, hm]
          · refine List.mem_append_left _ (List.mem_append_right _ (List.mem_flatMap.mpr ⟨arm, hmem, ?_⟩))
            simp only [Arm.allRefs, hpl, hm]
      | none =>
        dsimp only
        cases htl : u.tail with
        | defaultData fd =>
          refine AnswersFrom.bind ((field_cost fd (hD.sub fun m hm => ?_) (hG.sub fun m hm => ?_)).mono
            (Nat.le_trans (Nat.le_max_right _ _) (Nat.le_max_right _ _))) (advF fd) (fun _ => AnswersFrom.ok)
          · refine List.mem_append_right _ ?_
            simp only [Tail.direct, htl, hm]
          · refine List.mem_append_right _ ?_
            simp only [Tail.allRefs, htl, hm]
        | errUnknown => exact AnswersFrom.of_answers fun _ _ => nofun
        | none => exact AnswersFrom.of_answers fun _ _ => nofun
  | enum arms =>
    refine AnswersFrom.succ (F := 0) (AnswersFrom.of_answers fun f c => Res.bind_answers (readers_answers.i32 c) (fun x c1 _ => ?_))
      (evalImpl_enum hfi hb)
    split <;> nofun
  | typedef fd =>
    rw [hb] at hD hG
    exact (AnswersFrom.bind (field_cost fd hD hG) (advF fd) (fun _ => AnswersFrom.ok)).succ (evalImpl_typedef hfi hb)

/-- with the panic that `Plans.Ok` excludes -/
theorem unresolved_answers {n : String} (hfi : p.findImpl n = none) : AnswersFrom R 1 (fun f => evalImpl a p f n) :=
  AnswersFrom.reader (g := fun _ => .panic "unresolved") (fun _ => nofun) (evalImpl_none hfi)

end level

end Fx
