/-
  Fx.Lemmas.Runtime — the runtime model.  Every primitive read (`read_u32`, `read_u64`, `read_bytes`, the padding skip) is one
  reader, `readRaw`.
-/
import Fx.Runtime
namespace Fx

theorem Res.bind_eq_ok {α β} {r : Res α} {f : α → Cur → Res β} {b c}
    (h : r.bind f = .ok b c) : ∃ a c', r = .ok a c' ∧ f a c' = .ok b c := by
  cases r with
  | ok a c' => exact ⟨a, c', rfl, h⟩
  | err e l => cases h
  | panic s => cases h
  | abort => cases h
  | outOfFuel => cases h

theorem Res.map_eq_ok {α β} {r : Res α} {g : α → β} {b c} (h : r.map g = .ok b c) :
    ∃ a, r = .ok a c ∧ g a = b := by
  obtain ⟨a, c', h1, h2⟩ := Res.bind_eq_ok h
  cases h2
  exact ⟨a, h1, rfl⟩

theorem padLen_lt (n : Nat) : padLen n < 4 := by
  unfold padLen
  split
  · decide
  · exact Nat.sub_lt (by decide) (Nat.pos_of_ne_zero ‹_›)
theorem padLen_mod (n : Nat) : (n + padLen n) % 4 = 0 := by unfold padLen; split <;> omega
theorem padLen_min (n k : Nat) (h : (n + k) % 4 = 0) : padLen n ≤ k := by
  unfold padLen; split <;> omega
theorem padLen_of_mod (n : Nat) (h : n % 4 = 0) : padLen n = 0 := by simp [padLen, h]

@[simp] theorem be32_length (n : Nat) : (be32 n).length = 4 := rfl
@[simp] theorem be64_length (n : Nat) : (be64 n).length = 8 := rfl
@[simp] theorem zeros_length (k : Nat) : (zeros k).length = k := by simp [zeros]

@[simp] theorem Cur.remaining_mk (o d l) : (Cur.mk o d l).remaining = d.length := rfl
@[simp] theorem Cur.advance_off (c : Cur) (n) : (c.advance n).off = c.off + n := rfl
@[simp] theorem Cur.advance_data (c : Cur) (n) : (c.advance n).data = c.data.drop n := rfl
@[simp] theorem Cur.advance_log (c : Cur) (n) : (c.advance n).log = c.log := rfl
@[simp] theorem Cur.advance_remaining (c : Cur) (n) : (c.advance n).remaining = c.remaining - n := by
  simp [Cur.remaining]
@[simp] theorem Cur.advance_zero (c : Cur) : c.advance 0 = c := by
  cases c; simp [Cur.advance]
theorem Cur.advance_advance (c : Cur) (a b) : (c.advance a).advance b = c.advance (a + b) := by
  cases c; simp [Cur.advance, List.drop_drop, Nat.add_assoc]

theorem Vals.snoc_append : ∀ (acc : Vals) (t : Val) (r : Vals), (acc.snoc t).append r = acc.append (.cons t r)
  | .nil, t, r => rfl
  | .cons x xs, t, r => by simp only [Vals.snoc, Vals.append, Vals.snoc_append xs t r]

theorem Vals.append_nil : ∀ (acc : Vals), acc.append .nil = acc
  | .nil => rfl
  | .cons x xs => by simp only [Vals.append, Vals.append_nil xs]

theorem Vals.nil_append (r : Vals) : Vals.nil.append r = r := rfl

/-- The length test is inside: in front of a reader it would look at the cursor, which the closure principle of Lemmas/EvalBasics
    does not allow (hence `readBytes_eq`, `padSkip_eq`). -/
def readRaw {α} (k : Nat) (g : Nat → List Byte → α) (c : Cur) : Res α :=
  if c.remaining < k then .err .invalidLength c.log else .ok (g c.off (c.data.take k)) (c.advance k)

theorem readRaw_ok {α} {k : Nat} {g : Nat → List Byte → α} {c : Cur} {v : α} {c' : Cur} (h : readRaw k g c = .ok v c') :
    c' = c.advance k ∧ k ≤ c.remaining ∧ v = g c.off (c.data.take k) := by
  unfold readRaw at h
  split at h
  · cases h
  · cases h
    exact ⟨rfl, Nat.not_lt.mp ‹_›, rfl⟩

theorem readRaw_noBad {α} (k : Nat) (g : Nat → List Byte → α) (c : Cur) : (readRaw k g c).isBad = false := by
  unfold readRaw
  split <;> rfl

/-- the padding skip at the end of `read_variable_array` -/
theorem padSkip_eq {α} (k : Nat) (v : α) (c : Cur) :
    (if c.remaining < k then Res.err .invalidLength c.log else (advanceP k c).bind fun _ c4 => .ok v c4) =
      readRaw k (fun _ _ => v) c := by
  unfold readRaw advanceP
  split <;> simp [*]

/- what `readU32`/`readU64` return, in the form `readRaw` takes -/
def beVal : List Byte → Nat := List.foldl (fun acc b => acc * 256 + b.toNat) 0

theorem word32_eq (a b x d : Byte) : word32 a b x d = beVal [a, b, x, d] := by
  simp only [word32, beVal, List.foldl]
  omega

theorem foldl_beVal (xs : List Byte) :
    ∀ i, List.foldl (fun acc (b : Byte) => acc * 256 + b.toNat) i xs = i * 256 ^ xs.length + beVal xs := by
  induction xs with
  | nil =>
    intro i
    simp [beVal]
  | cons x xs ih =>
    intro i
    show List.foldl _ (i * 256 + x.toNat) xs = i * 256 ^ (xs.length + 1) + List.foldl _ (0 * 256 + x.toNat) xs
    rw [ih, ih (0 * 256 + x.toNat), Nat.zero_mul, Nat.zero_add, Nat.add_mul, Nat.pow_succ, Nat.mul_assoc, Nat.mul_comm 256,
      Nat.add_assoc]

theorem beVal_append (xs ys : List Byte) : beVal (xs ++ ys) = beVal xs * 256 ^ ys.length + beVal ys := by
  rw [beVal, List.foldl_append, foldl_beVal]
  rfl

/-- `% 256` on both sides: `UInt8.toNat_ofNat'` alone leaves `k % 256 % 2^8`, dear for `omega` -/
theorem toNat_ofNat_mod256 (k : Nat) : (UInt8.ofNat (k % 256)).toNat = k % 256 := by
  simp only [UInt8.toNat_ofNat']
  omega

theorem word32_be32 (n : Nat) (h : n < 2^32) :
    word32 (UInt8.ofNat (n / 2^24 % 256)) (UInt8.ofNat (n / 2^16 % 256))
      (UInt8.ofNat (n / 2^8 % 256)) (UInt8.ofNat (n % 256)) = n := by
  simp only [word32, toNat_ofNat_mod256]
  omega

theorem word32_lt (a b c d : Byte) : word32 a b c d < 2^32 := by
  have := a.toNat_lt; have := b.toNat_lt; have := c.toNat_lt; have := d.toNat_lt
  simp only [word32]; omega

theorem base256_divMod (q r : Nat) (h : r < 256) : (q * 256 + r) / 256 = q ∧ (q * 256 + r) % 256 = r :=
  ⟨by rw [Nat.mul_comm, Nat.mul_add_div (by decide), Nat.div_eq_of_lt h, Nat.add_zero],
   by rw [Nat.mul_comm, Nat.mul_add_mod, Nat.mod_eq_of_lt h]⟩

theorem be32_word32 (a b x d : Byte) : be32 (word32 a b x d) = [a, b, x, d] := by
  have d1 := base256_divMod ((a.toNat * 256 + b.toNat) * 256 + x.toNat) d.toNat d.toNat_lt
  have d2 := base256_divMod (a.toNat * 256 + b.toNat) x.toNat x.toNat_lt
  have d3 := base256_divMod a.toNat b.toNat b.toNat_lt
  simp only [word32_eq, be32, beVal, List.foldl, Nat.zero_mul, Nat.zero_add, show (2:Nat)^24 = 256 * 256 * 256 from rfl,
    show (2:Nat)^16 = 256 * 256 from rfl, show (2:Nat)^8 = 256 from rfl,
    ← Nat.div_div_eq_div_mul, d1.1, d1.2, d2.1, d2.2, d3.1, d3.2, Nat.mod_eq_of_lt a.toNat_lt, UInt8.ofNat_toNat]

theorem toSigned_ofSigned_32 (i : Int) (h1 : -(2^31 : Int) ≤ i) (h2 : i < 2^31) : toSigned 32 (ofSigned 32 i) = i := by
  simp only [toSigned, ofSigned, show ((2^32 : Nat) : Int) = 4294967296 from rfl]
  split <;> omega

theorem toSigned_ofSigned_64 (i : Int) (h1 : -(2^63 : Int) ≤ i) (h2 : i < 2^63) : toSigned 64 (ofSigned 64 i) = i := by
  simp only [toSigned, ofSigned, show ((2^64 : Nat) : Int) = 18446744073709551616 from rfl]
  split <;> omega

theorem ofSigned_lt_32 (i : Int) : ofSigned 32 i < 2^32 := by
  simp only [ofSigned]
  omega

theorem ofSigned_lt_64 (i : Int) : ofSigned 64 i < 2^64 := by
  simp only [ofSigned]
  omega

theorem toSigned_range_32 (n : Nat) (h : n < 2^32) : -(2^31 : Int) ≤ toSigned 32 n ∧ toSigned 32 n < 2^31 := by
  unfold toSigned
  split <;> constructor <;> omega

theorem toSigned_range_64 (n : Nat) (h : n < 2^64) : -(2^63 : Int) ≤ toSigned 64 n ∧ toSigned 64 n < 2^63 := by
  unfold toSigned
  split <;> constructor <;> omega

theorem readU32_cons (o : Nat) (a b x d : Byte) (s : List Byte) (l) :
    readU32 ⟨o, a :: b :: x :: d :: s, l⟩ = .ok (word32 a b x d) ⟨o + 4, s, l⟩ := by
  simp [readU32, getU32P, Cur.advance]

theorem readU32_eq (c : Cur) : readU32 c = readRaw 4 (fun _ => beVal) c := by
  obtain ⟨o, d, l⟩ := c
  match d with
  | a :: b :: x :: e :: r =>
    have : ¬ (r.length + 1 + 1 + 1 + 1 < 4) := by omega
    simp [readU32_cons, readRaw, Cur.remaining, word32_eq, this, Cur.advance]
  | [] | [_] | [_, _] | [_, _, _] => simp [readU32, readRaw, Cur.remaining]

theorem readU64_eq (c : Cur) : readU64 c = readRaw 8 (fun _ => beVal) c := by
  by_cases h : c.remaining < 8
  · simp [readU64, readRaw, h]
  · obtain ⟨o, d, l⟩ := c
    match d, h with
    | a :: b :: x :: e :: a' :: b' :: x' :: e' :: r, h =>
      have e8 : beVal [a, b, x, e, a', b', x', e'] = beVal [a, b, x, e] * 2^32 + beVal [a', b', x', e'] := by
        simpa using beVal_append [a, b, x, e] [a', b', x', e']
      simp only [readU64, getU64P, readRaw, h, if_false, word32_eq, Cur.advance, List.take_succ_cons, List.take_zero,
        List.drop_succ_cons, List.drop_zero, e8]
    | [], h | [_], h | [_, _], h | [_, _, _], h | [_, _, _, _], h | [_, _, _, _, _], h | [_, _, _, _, _, _], h
    | [_, _, _, _, _, _, _], h => exact (h (by simp)).elim

theorem readU32_be32 (n : Nat) (h : n < 2^32) (o : Nat) (s : List Byte) (l) :
    readU32 ⟨o, be32 n ++ s, l⟩ = .ok n ⟨o + 4, s, l⟩ := by
  simp only [be32, List.cons_append, List.nil_append, readU32_cons, word32_be32 n h]

theorem readU32_ok {c : Cur} {n : Nat} {c' : Cur} (h : readU32 c = .ok n c') :
    c' = c.advance 4 ∧ 4 ≤ c.remaining ∧ n < 2^32 ∧ c.data.take 4 = be32 n := by
  unfold readU32 getU32P at h
  split at h
  · cases h
  · split at h
    · rename_i a b x e r hd
      cases h
      exact ⟨rfl, Nat.not_lt.mp ‹_›, word32_lt a b x e, by rw [hd]; exact (be32_word32 a b x e).symm⟩
    · cases h

theorem beVal_be32 (n : Nat) (h : n < 2^32) : beVal (be32 n) = n := by
  have := word32_be32 n h
  rwa [word32_eq] at this

theorem readU64_be64 (n : Nat) (h : n < 2^64) (o : Nat) (s : List Byte) (l) :
    readU64 ⟨o, be64 n ++ s, l⟩ = .ok n ⟨o + 8, s, l⟩ := by
  have e : beVal (be64 n) = n := by
    rw [be64, beVal_append, beVal_be32 _ (Nat.mod_lt _ (by decide)), beVal_be32 _ (Nat.mod_lt _ (by decide)), be32_length]
    omega
  have ht : (be64 n ++ s).take 8 = be64 n := List.take_left' (be64_length n)
  have hd : (be64 n ++ s).drop 8 = s := List.drop_left' (be64_length n)
  simp [readU64_eq, readRaw, Cur.advance, ht, hd, e]

theorem readU64_ok {c : Cur} {n : Nat} {c' : Cur} (h : readU64 c = .ok n c') :
    c' = c.advance 8 ∧ 8 ≤ c.remaining ∧ n < 2^64 := by
  unfold readU64 getU64P at h
  split at h
  · cases h
  · split at h
    · rename_i a b x d e f g i rest _
      cases h
      have h1 := word32_lt a b x d
      have h2 := word32_lt e f g i
      exact ⟨rfl, Nat.not_lt.mp ‹_›, by omega⟩
    · cases h

theorem readBytes_short (n : Nat) (c : Cur) (h : c.remaining < n + padLen n) :
    readBytes n c = .err .invalidLength c.log := by
  simp [readBytes, h]

theorem readBytes_enough (n : Nat) (c : Cur) (h : n + padLen n ≤ c.remaining) :
    readBytes n c = .ok (.bytes c.off (c.data.take n)) (c.advance (n + padLen n)) := by
  have h1 : ¬ c.remaining < n + padLen n := by omega
  have h2 : ¬ c.remaining < n := by omega
  simp [readBytes, h1, sliceP, h2, advanceP]

theorem readBytes_eq (n : Nat) (c : Cur) : readBytes n c = readRaw (n + padLen n) (fun o bs => .bytes o (bs.take n)) c := by
  unfold readRaw
  split
  · exact readBytes_short n c ‹_›
  · simp only [readBytes_enough n c (by omega), List.take_take, Nat.min_eq_left (Nat.le_add_right _ _)]

theorem readBytes_ok {n : Nat} {c : Cur} {v : Val} {c' : Cur} (h : readBytes n c = .ok v c') :
    c' = c.advance (n + padLen n) ∧ n + padLen n ≤ c.remaining ∧ v = .bytes c.off (c.data.take n) :=
  let ⟨hc, hl, hv⟩ := readRaw_ok (readBytes_eq n c ▸ h)
  ⟨hc, hl, by rw [hv, List.take_take, Nat.min_eq_left (Nat.le_add_right _ _)]⟩

theorem readBytes_enc (b s : List Byte) (o : Nat) (l) :
    readBytes b.length ⟨o, b ++ zeros (padLen b.length) ++ s, l⟩ = .ok (.bytes o b) ⟨o + (b.length + padLen b.length), s, l⟩ := by
  rw [readBytes_enough _ _ (by simp)]
  simp [Cur.advance, List.append_assoc]

theorem readVariableBytes_ok {m : Option Nat} {c : Cur} {v : Val} {c' : Cur} (h : readVariableBytes m c = .ok v c') :
    ∃ n, c' = c.advance (4 + (n + padLen n)) ∧ 4 + (n + padLen n) ≤ c.remaining ∧ n < 2^32 ∧ overLimit m n = false ∧
      v = .bytes (c.off + 4) ((c.data.drop 4).take n) := by
  unfold readVariableBytes at h
  cases hr : readU32 c with
  | ok n c1 =>
    rw [hr, Res.bind_ok] at h
    obtain ⟨rfl, h4, hn, _⟩ := readU32_ok hr
    split at h
    · cases h
    · obtain ⟨rfl, hl, rfl⟩ := readBytes_ok h
      refine ⟨n, Cur.advance_advance c _ _, ?_, hn, by simpa using ‹¬ overLimit m n = true›, rfl⟩
      simp at hl
      omega
  | _ =>
    rw [hr] at h
    cases h

theorem readBool_be32 (n : Nat) (h : n < 2^32) (o : Nat) (s : List Byte) (l) :
    readBool ⟨o, be32 n ++ s, l⟩ =
      if n = 0 then .ok false ⟨o + 4, s, l⟩
      else if n = 1 then .ok true ⟨o + 4, s, l⟩
      else .err .invalidBoolean l := by
  have h0 : toSigned 32 n = 0 ↔ n = 0 := by
    unfold toSigned
    split <;> omega
  have h1 : toSigned 32 n = 1 ↔ n = 1 := by
    unfold toSigned
    split <;> omega
  simp only [readBool, readI32, Res.map, readU32_be32 n h, Res.bind_ok, h0, h1]

theorem readVariableBytes_be32 (max : Option Nat) (n : Nat) (h : n < 2^32) (o : Nat) (s : List Byte) (l) :
    readVariableBytes max ⟨o, be32 n ++ s, l⟩ =
      if overLimit max n then .err .invalidLength l
      else if s.length < n + padLen n then .err .invalidLength l
      else .ok (.bytes (o + 4) (s.take n)) ⟨o + 4 + (n + padLen n), s.drop (n + padLen n), l⟩ := by
  simp only [readVariableBytes, readU32_be32 n h, Res.bind_ok]
  split
  · rfl
  · split
    · exact readBytes_short n _ ‹_›
    · rw [readBytes_enough n _ (by simpa using Nat.not_lt.mp ‹_›)]
      rfl

theorem readString_be32 (max : Option Nat) (n : Nat) (h : n < 2^32) (o : Nat) (s : List Byte) (l) :
    readString max ⟨o, be32 n ++ s, l⟩ =
      if overLimit max n then .err .invalidLength l
      else if s.length < n + padLen n then .err .invalidLength l
      else if utf8Valid (s.take n) then
        .ok (.str (s.take n)) ⟨o + 4 + (n + padLen n), s.drop (n + padLen n), l ++ [.str (min n s.length)]⟩
      else .err .nonUtf8String (l ++ [.str (min n s.length)]) := by
  simp only [readString, readVariableBytes_be32 max n h]
  split
  · rfl
  · split
    · rfl
    · simp only [Res.bind_ok, payloadOf, Cur.addLog, List.length_take]

theorem readString_ok {m : Option Nat} {c : Cur} {v : Val} {c' : Cur} (h : readString m c = .ok v c') :
    ∃ b c1, readVariableBytes m c = .ok b c1 ∧ utf8Valid (payloadOf b) = true ∧ v = .str (payloadOf b) ∧
      c' = c1.addLog (.str (payloadOf b).length) := by
  obtain ⟨b, c1, h1, h2⟩ := Res.bind_eq_ok h
  simp only at h2
  split at h2 <;> cases h2
  exact ⟨b, c1, h1, ‹_›, rfl, rfl⟩

/-- where `read_variable_array`'s loop goes on: `self` advanced, with the log the element decoder left -/
def Cur.stepped (c : Cur) (k : Nat) (l : List Ev) : Cur := { c.advance k with log := l }

@[simp] theorem Cur.stepped_remaining (c : Cur) (k : Nat) (l : List Ev) : (c.stepped k l).remaining = c.remaining - k :=
  Cur.advance_remaining c k

theorem arrLoop_succ (dec : Cur → Res Val) (ws : Val → Nat) (k : Nat) (c : Cur) (sum : Nat) (acc : Vals) :
    arrLoop dec ws (k + 1) c sum acc = (dec c).bind fun t ct =>
      if c.remaining < ws t then .err .invalidLength ct.log
      else arrLoop dec ws k (c.stepped (ws t) ct.log) (sum + ws t) (acc.snoc t) := by
  simp only [arrLoop]
  cases dec c <;> rfl

theorem arrLoop_succ_ok {dec : Cur → Res Val} {ws : Val → Nat} {k : Nat} {c : Cur} {sum : Nat} {acc : Vals} {r c'}
    (h : arrLoop dec ws (k + 1) c sum acc = .ok r c') :
    ∃ t ct, dec c = .ok t ct ∧ ws t ≤ c.remaining ∧
      arrLoop dec ws k (c.stepped (ws t) ct.log) (sum + ws t) (acc.snoc t) = .ok r c' := by
  obtain ⟨t, ct, h1, h2⟩ := Res.bind_eq_ok (arrLoop_succ .. ▸ h)
  split at h2
  · cases h2
  · exact ⟨t, ct, h1, Nat.not_lt.mp ‹_›, h2⟩

theorem readVariableArray_ok {dec : Cur → Res Val} {ws : Val → Nat} {m : Option Nat} {c : Cur} {v : Val} {c' : Cur}
    (h : readVariableArray dec ws m c = .ok v c') :
    ∃ n c1 out sum c3, readU32 c = .ok n c1 ∧ overLimit m n = false ∧
      arrLoop dec ws n (c1.addLog (.vec (min n c1.remaining))) 0 .nil = .ok (out, sum) c3 ∧
      c' = c3.advance (padLen sum) ∧ padLen sum ≤ c3.remaining ∧ v = .vec out := by
  obtain ⟨n, c1, h1, h2⟩ := Res.bind_eq_ok h
  split at h2
  · cases h2
  · obtain ⟨⟨out, sum⟩, c3, h3, h4⟩ := Res.bind_eq_ok h2
    simp only [padSkip_eq] at h4
    exact ⟨n, c1, out, sum, c3, h1, by simpa using ‹¬ overLimit m n = true›, h3, readRaw_ok h4⟩

end Fx
