/-
  Fx.Lemmas.Depth — without recursive types (no declaration reaches itself, not even through `Option<Box<_>>` or `Vec<_>`) the
  recursion budget does not depend on the input: `Plans.need` (Fx.Finite) is computed from the plans alone.  C09 uses it: one
  decode reserves at most `depth × bytes present`.
-/
import Fx.Lemmas.Terminates
namespace Fx

theorem FieldDec.direct_sub_allRefs {fd : FieldDec} {m : String} (h : m ∈ fd.direct) : m ∈ fd.allRefs := by
  cases fd <;> first | exact h | cases h

theorem ImplBody.direct_sub_allRefs {b : ImplBody} {m : String} (h : m ∈ b.direct) : m ∈ b.allRefs := by
  cases b with
  | struct fs =>
    obtain ⟨fld, hf, hm⟩ := List.mem_flatMap.mp h
    refine List.mem_flatMap.mpr ⟨fld, hf, ?_⟩
    cases fld with
    | plain nm fd => exact FieldDec.direct_sub_allRefs hm
    | optional nm ty => cases hm
  | union u =>
    simp only [ImplBody.direct, ImplBody.allRefs, List.mem_append, List.mem_flatMap] at h ⊢
    rcases h with (h | ⟨arm, ha, hm⟩) | h
    · exact Or.inl (Or.inl h)
    · refine Or.inl (Or.inr ⟨arm, ha, ?_⟩)
      simp only [Arm.direct, Arm.allRefs] at hm ⊢
      cases hpl : arm.payload with
      | none =>
        rw [hpl] at hm
        cases hm
      | some fd =>
        rw [hpl] at hm
        exact FieldDec.direct_sub_allRefs hm
    · refine Or.inr ?_
      cases htl : u.tail with
      | defaultData fd =>
        rw [htl] at h
        exact FieldDec.direct_sub_allRefs h
      | _ =>
        rw [htl] at h
        cases h
  | enum arms => cases h
  | typedef fd => exact FieldDec.direct_sub_allRefs h

theorem need_sound (a : Ast) (p : Plans) (rk : String → Nat)
    (hr : ∀ i ∈ p.impls, ∀ m ∈ i.body.allRefs, rk m < rk i.name) :
    ∀ (g : Nat) (n : String), rk n < g → ∀ f, p.need g n ≤ f → ∀ c, evalImpl a p f n c ≠ .outOfFuel := by
  intro g
  induction g with
  | zero => intro n h; omega
  | succ g ih =>
    intro n hn f hf c
    simp only [Plans.need] at hf
    cases hfi : p.findImpl n with
    | none =>
      rw [hfi] at hf
      exact unresolved_answers hfi f hf c (Nat.le_refl _)
    | some i =>
      simp only [hfi, ImplBody.need_eq] at hf
      obtain ⟨hmem, hname⟩ := Plans.findImpl_some hfi
      have hlt : ∀ m ∈ i.body.allRefs, rk m < g :=
        fun m hm => Nat.lt_of_lt_of_le (hname ▸ hr i hmem m hm) (Nat.le_of_lt_succ hn)
      -- the level lemma with one budget for both kinds of reference, on the buffers no longer than `c`
      exact impl_cost (recD := p.need g) (recG := p.need g) (R := c.remaining) hfi
        (fun m hm f hf c _ => ih m (hlt m (ImplBody.direct_sub_allRefs hm)) f hf c)
        (fun m hm f hf c _ => ih m (hlt m hm) f hf c) f hf c (Nat.le_refl _)

theorem Plans.acyclic_ranked (p : Plans) (h : p.acyclic = true) :
    ∀ i ∈ p.impls, ∀ m ∈ i.body.allRefs, p.rankAll (p.impls.length + 1) m < p.rankAll (p.impls.length + 1) i.name := by
  intro i hi m hm
  simp only [Plans.acyclic, List.all_eq_true, decide_eq_true_eq] at h
  exact h i hi m hm

theorem depth_suffices (a : Ast) (p : Plans) (h : p.acyclic = true) :
    ∀ (R : Nat) (n : String), AnswersFrom R (p.depth n) (fun f => evalImpl a p f n) :=
  fun _ n f hf c _ => need_sound a p _ (p.acyclic_ranked h) _ n (Nat.lt_succ_self _) f hf c

end Fx
