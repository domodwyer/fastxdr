/-
  Fx.Lemmas.ParseSpec — whole specifications: the `item` rule of the grammar regenerated from `src/xdr.pest` accepts a list of
  declarations with a layout before, between and after them, with the token tree `Spec.root`.
-/
import Fx.Lemmas.ParseDecl
import Fx.Lemmas.ParseUnion
namespace Fx.Parse
open Fx.Peg

def Decl.head : Decl → Char
  | .const _ => 'c'
  | .typedef _ => 't'
  | .enum _ => 'e'
  | .struct _ => 's'
  | .union _ => 'u'

theorem Decl.text_head (d : Decl) : ∃ cs, d.text = d.head :: cs := by
  cases d <;> exact ⟨_, rfl⟩

theorem tokStart_decl {d : Decl} : TokStart d.text := by
  obtain ⟨cs, e⟩ := d.text_head
  refine ⟨d.head, cs, e, ?_, ?_⟩ <;> cases d <;> simp [Decl.head, isWsChar]

/-- the alternatives in front of the right one are rejected on the first character -/
theorem Acc.decl (d : Decl) (h : d.ok = true) : Acc eDecl d.text d.tokens (fun _ => True) := by
  have ns : ∀ {c : Char}, (d.head != c) = true → ∀ r : List Char, True → NotStarts c (d.text ++ r) := by
    intro c hc r _
    obtain ⟨cs, e⟩ := d.text_head
    rw [e]
    simpa [NotStarts] using hc
  cases d with
  | const d => exact Acc.alt1 (Acc.constD d h)
  | typedef d => exact Acc.alt2 (Rej.kw has_constant) (Acc.alt1 (Acc.typedefD d h)) (ns rfl)
  | enum d => exact Acc.alt2 (Rej.kw has_constant) (Acc.alt2 (Rej.kw has_typedef) (Acc.alt1 (Acc.enumD d h)) (ns rfl)) (ns rfl)
  | struct d =>
    exact Acc.alt2 (Rej.kw has_constant) (Acc.alt2 (Rej.kw has_typedef) (Acc.alt2 (Rej.kw has_enum_type) (Acc.alt1 (Acc.structD d h))
      (ns rfl)) (ns rfl)) (ns rfl)
  | union d =>
    exact Acc.alt2 (Rej.kw has_constant) (Acc.alt2 (Rej.kw has_typedef) (Acc.alt2 (Rej.kw has_enum_type) (Acc.alt2 (Rej.kw has_struct_type)
      (Acc.unionD d h) (ns rfl)) (ns rfl)) (ns rfl)) (ns rfl)

theorem Rej.declEnd : Rej eDecl (fun r => r = []) := by
  have nil : ∀ c, ∀ r : List Char, r = [] → NotStarts c r := fun c r hr => by subst hr; simp [NotStarts]
  exact Rej.alt ((Rej.kw has_constant).mono (nil _)) (Rej.alt ((Rej.kw has_typedef).mono (nil _)) (Rej.alt ((Rej.kw has_enum_type).mono (nil _))
    (Rej.alt ((Rej.kw has_struct_type).mono (nil _)) ((Rej.kw has_union).mono (nil _)))))

theorem Acc.eoi : Acc .eoi [] [Pair.mk "EOI" [] []] (fun r => r = []) := by
  intro p r hr; subst hr; exact EOk.eoi

theorem Acc.declsEnd (decls : List (Decl × Layout)) (hd : ∀ dl ∈ decls, dl.1.ok = true ∧ dl.2.ok = true) :
    Acc (.seq (.star eDecl) .eoi) (elemsText (decls.map declElem)) (elemToks (decls.map declElem) ++ [Pair.mk "EOI" [] []])
      (fun r => r = []) := by
  have hnil : NoLayoutStart ([] : List Char) := Ahead.nil
  have := Acc.star_close (Cend := fun r => r = []) Acc.eoi Rej.declEnd (fun r hr => hr ▸ hnil) (fun r hr => by simpa using hr)
    (decls.map declElem) (fun r hr => ?_)
  · simpa using this
  subst hr
  refine (elemsOk_of (fun _ => True) NoLayoutStart [] hnil (fun _ h => h) (fun _ _ _ _ => trivial) (fun x hx => ?_)).1
  obtain ⟨dl, hmem, rfl⟩ := List.mem_map.mp hx
  have hok := hd dl hmem
  obtain ⟨c, cs, e, _, _⟩ := tokStart_decl (d := dl.1)
  exact ⟨by simp [declElem, e], hok.2, Acc.decl dl.1 hok.1, fun y => tokStart_decl.noLayout⟩

theorem spec_parses (s : Spec) (h : s.ok = true) :
    ROk X false "item" ⟨0, s.text⟩ ⟨s.text.length, []⟩ [s.root] := by
  have ok := Spec.of_ok h
  have aRest := Acc.declsEnd s.decls ok.decls (s.l0.text.length) [] rfl
  have hstart : NoLayoutStart (elemsText (s.decls.map declElem) ++ []) :=
    elemsText_noLayout (fun el hel => by
      obtain ⟨dl, _, rfl⟩ := List.mem_map.mp hel
      exact tokStart_decl) Ahead.nil
  have S := skOk_layout s.l0 0 (elemsText (s.decls.map declElem) ++ []) ok.l0 hstart
  have E := EOk.seq (EOk.soi (g := X) (at_ := false) (cs := s.l0.text ++ (elemsText (s.decls.map declElem) ++ []))) S
    (by simpa using aRest)
  have R := has_item.ok E
  have e1 : s.l0.text ++ (elemsText (s.decls.map declElem) ++ []) = s.text := by simp [Spec.text]
  have e2 : s.l0.text.length + (elemsText (s.decls.map declElem)).length = s.text.length := by simp [Spec.text]
  rw [e1, e2] at R
  have e3 : consumed ⟨0, s.text⟩ ⟨s.text.length, []⟩ = s.text := by
    have := consumed_app 0 s.text []
    simpa using this
  rw [e3] at R
  simpa [Spec.root, Spec.children] using R

end Fx.Parse
