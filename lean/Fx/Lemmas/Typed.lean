/-
  Fx.Lemmas.Typed — what the reference's `hasType*` / `repr*` say, by the form of the declared type; and the one point where
  it meets the emitters: the bound `resolveSize` resolves is the one `boundValue` declares.
-/
import Fx.Lemmas.SupportedFacts
namespace Fx

theorem withinLimit_iff {lim : Option Nat} {k : Nat} : withinLimit lim k = true ↔ k < 2^32 ∧ overLimit lim k = false := by
  cases lim <;> simp [withinLimit, overLimit]

theorem hasType_none (a : Ast) (t : BasicType) (x : XVal) : hasType a (.none t) x = hasTypeBasic a t x := by
  rw [hasType]

theorem hasType_fixed {a : Ast} {sz : ArraySize} {n : Nat} (h : boundValue a sz = some n) {t : BasicType} {x : XVal} :
    hasType a (.fixed t sz) x = fixedHasType a n t x := by
  simp only [hasType, h]

theorem hasType_variable {a : Ast} {m : Option ArraySize} {lim : Option Nat} (h : limitOf a m = some lim) {t : BasicType} {x : XVal} :
    hasType a (.variable t m) x = varHasType a lim t x := by
  simp only [hasType, h]

theorem repr_none (a : Ast) (t : BasicType) (off : Nat) (x : XVal) : repr a (.none t) off x = reprBasic a t off x := by
  rw [repr]

theorem fixedHasType_opaque {a : Ast} {n : Nat} {x : XVal} :
    fixedHasType a n .opaque x = true ↔ ∃ bs, x = .fixedOpaque bs ∧ bs.length = n := by
  rw [fixedHasType.eq_def]
  split <;> simp_all

theorem fixedHasType_arr {a : Ast} {n : Nat} {t : BasicType} (h1 : t ≠ .opaque) (h2 : t ≠ .string) {x : XVal} :
    fixedHasType a n t x = true ↔ ∃ xs, x = .fixedArr xs ∧ xs.len = n ∧ allHaveType a t xs = true := by
  rw [fixedHasType.eq_def]
  split <;> simp_all

theorem varHasType_opaque {a : Ast} {lim : Option Nat} {x : XVal} :
    varHasType a lim .opaque x = true ↔ ∃ bs, x = .varOpaque bs ∧ withinLimit lim bs.length = true := by
  rw [varHasType.eq_def]
  split <;> simp_all

theorem varHasType_string {a : Ast} {lim : Option Nat} {x : XVal} :
    varHasType a lim .string x = true ↔ ∃ bs, x = .str bs ∧ withinLimit lim bs.length = true ∧ utf8Valid bs = true := by
  rw [varHasType.eq_def]
  split <;> simp_all

theorem varHasType_ident {a : Ast} {lim : Option Nat} {nm : String} {x : XVal} :
    varHasType a lim (.ident nm) x = true ↔
      ∃ xs, x = .varArr xs ∧ withinLimit lim xs.len = true ∧ allHaveType a (.ident nm) xs = true := by
  rw [varHasType.eq_def]
  split <;> simp_all

theorem hasTypeBasic_ident (a : Ast) (n : String) (x : XVal) : hasTypeBasic a (.ident n) x = hasTypeNamed a n x := by
  rw [hasTypeBasic]

/-- on a leaf value `reprBasic` answers it whatever the type, `reprNamed` answers `.none`: no typed value of a name is a leaf -/
theorem reprBasic_ident_eq {a : Ast} {n : String} {x : XVal} (hn : hasTypeNamed a n x = true) (off : Nat) :
    reprBasic a (.ident n) off x = reprNamed a n off x := by
  rw [hasTypeNamed.eq_def] at hn
  split at hn <;> first | cases hn | simp [reprBasic]

theorem declared_of_hasTypeNamed {a : Ast} {n : String} {x : XVal} (h : hasTypeNamed a n x = true) : declared a n = true := by
  simp only [declared]
  cases hb : bget n a.types with
  | some ty => rfl
  | none =>
    rw [hasTypeNamed.eq_def] at h
    split at h <;> simp [hb] at h

theorem hasTypeNamed_struct {a : Ast} {n : String} {s : Struct} (hb : bget n a.types = some (.struct s)) {x : XVal} :
    hasTypeNamed a n x = true ↔ ∃ fs, x = .struct fs ∧ fieldsHaveType a s.fields fs = true := by
  constructor
  · intro h
    rw [hasTypeNamed.eq_def] at h
    split at h <;> simp only [hb, Bool.false_eq_true] at h
    exact ⟨_, rfl, h⟩
  · rintro ⟨fs, rfl, h⟩
    rw [hasTypeNamed.eq_def]
    simp only [hb]
    exact h

theorem reprNamed_struct {a : Ast} {n : String} {s : Struct} (hb : bget n a.types = some (.struct s)) (off : Nat) (fs : XVals) :
    reprNamed a n off (.struct fs) = .struct n (s.fields.map fun f => docFieldName f.fieldName) (reprFields a s.fields off fs) := by
  simp only [reprNamed, hb]

section union
variable {a : Ast} {n : String} {u : Union} (hb : bget n a.types = some (.union u))
include hb

theorem hasTypeNamed_union_inv {x : XVal} (h : hasTypeNamed a n x = true) :
    ∃ d arm, x = .union d arm ∧ discOk a (discKind a u.switch.varType) d = true := by
  rw [hasTypeNamed.eq_def] at h
  split at h <;> simp only [hb, Bool.and_eq_true, Bool.false_eq_true] at h
  exact ⟨_, _, rfl, h.1⟩

theorem hasTypeNamed_union_data {d : Nat} {l : String} {ty : ArrayType} (hsd : selectDeclared a u d = .data l ty) (arm : XVal) :
    hasTypeNamed a n (.union d arm) = (discOk a (discKind a u.switch.varType) d && hasType a ty arm) := by
  rw [hasTypeNamed.eq_def]
  simp only [hb, hsd]

theorem hasTypeNamed_union_void {d : Nat} {l : String} (hsd : selectDeclared a u d = .void l) {arm : XVal} :
    hasTypeNamed a n (.union d arm) = true ↔ discOk a (discKind a u.switch.varType) d = true ∧ arm = .void := by
  rw [hasTypeNamed.eq_def]
  simp only [hb, hsd, Bool.and_eq_true]
  cases arm <;> simp

theorem hasTypeNamed_union_noArm {d : Nat} (hsd : selectDeclared a u d = .noArm) (arm : XVal) :
    hasTypeNamed a n (.union d arm) = false := by
  rw [hasTypeNamed.eq_def]
  simp only [hb, hsd, Bool.and_false]

theorem reprNamed_union_data {d : Nat} {l : String} {ty : ArrayType} (hsd : selectDeclared a u d = .data l ty) (off : Nat) (arm : XVal) :
    reprNamed a n off (.union d arm) = .tuple n (docVariantName l) (repr a ty (off + 4) arm) := by
  rw [reprNamed.eq_def]
  simp only [hb, hsd]

theorem reprNamed_union_void {d : Nat} {l : String} (hsd : selectDeclared a u d = .void l) (off : Nat) (arm : XVal) :
    reprNamed a n off (.union d arm) = .unit n (docVariantName l) := by
  rw [reprNamed.eq_def]
  simp only [hb, hsd]
end union

theorem hasTypeNamed_enum {a : Ast} {n : String} {e : Enum} (hb : bget n a.types = some (.enum e)) {x : XVal} :
    hasTypeNamed a n x = true ↔ ∃ v, x = .enumv v ∧ enumHasValue a e v = true := by
  constructor
  · intro h
    rw [hasTypeNamed.eq_def] at h
    split at h <;> simp only [hb, Bool.false_eq_true] at h
    exact ⟨_, rfl, h⟩
  · rintro ⟨v, rfl, h⟩
    rw [hasTypeNamed.eq_def]
    simp only [hb]
    exact h

theorem reprNamed_enum {a : Ast} {n : String} {e : Enum} (hb : bget n a.types = some (.enum e)) (off v : Nat) :
    reprNamed a n off (.enumv v) = match enumMemberName a e v with | some m => .cenum n m | none => .none := by
  rw [reprNamed.eq_def]
  simp only [hb]
  rfl

/-- `hasTypeNamed`, `reprNamed` (and `marksNamed`) spell the declarator of a typedef out as a `match` on its alias -/
theorem hasType_wrapAlias (a : Ast) (td : Typedef) (v : XVal) :
    (match td.alias with
     | .none _ => hasType a (.none td.target) v
     | .fixed _ sz => hasType a (.fixed td.target sz) v
     | .variable _ m => hasType a (.variable td.target m) v) = hasType a (wrapAlias td) v := by
  obtain ⟨target, alias⟩ := td
  rcases alias with t | ⟨t, sz⟩ | ⟨t, m⟩ <;> rfl

theorem repr_wrapAlias (a : Ast) (td : Typedef) (off : Nat) (v : XVal) :
    (match td.alias with
     | .none _ => repr a (.none td.target) off v
     | .fixed _ sz => repr a (.fixed td.target sz) off v
     | .variable _ m => repr a (.variable td.target m) off v) = repr a (wrapAlias td) off v := by
  obtain ⟨target, alias⟩ := td
  rcases alias with t | ⟨t, sz⟩ | ⟨t, m⟩ <;> rfl

theorem hasTypeNamed_typedef {a : Ast} {n : String} {td : Typedef} (hb : bget n a.types = some (.typedef td)) {x : XVal} :
    hasTypeNamed a n x = true ↔ ∃ v, x = .alias v ∧ hasType a (wrapAlias td) v = true := by
  constructor
  · intro h
    rw [hasTypeNamed.eq_def] at h
    split at h <;> simp only [hb, Bool.false_eq_true] at h
    exact ⟨_, rfl, (hasType_wrapAlias a td _).symm.trans h⟩
  · rintro ⟨v, rfl, h⟩
    rw [hasTypeNamed.eq_def]
    simp only [hb]
    exact (hasType_wrapAlias a td v).trans h

theorem reprNamed_alias {a : Ast} {n : String} {td : Typedef} (hb : bget n a.types = some (.typedef td)) (off : Nat) (v : XVal) :
    reprNamed a n off (.alias v) = .newtype n (repr a (wrapAlias td) off v) := by
  rw [reprNamed.eq_def]
  simp only [hb]
  exact congrArg _ (repr_wrapAlias a td off v)

theorem fieldHasType_plain {a : Ast} {f : StructField} (h : f.isOptional = false) (v : XVal) :
    fieldHasType a f v = hasType a f.fieldValue v := by
  rw [fieldHasType.eq_def]
  simp only [h, Bool.false_eq_true, if_false]

theorem reprField_plain {a : Ast} {f : StructField} (h : f.isOptional = false) (off : Nat) (v : XVal) :
    reprField a f off v = repr a f.fieldValue off v := by
  rw [reprField.eq_def]
  simp only [h, Bool.false_eq_true, if_false]

theorem fieldHasType_optional {a : Ast} {f : StructField} {n : String} (h : f.isOptional = true) (hv : f.fieldValue = .none (.ident n))
    {v : XVal} : fieldHasType a f v = true ↔ v = .optNone ∨ ∃ x, v = .optSome x ∧ hasTypeNamed a n x = true := by
  rw [fieldHasType.eq_def]
  simp only [h, if_true, hv, ArrayType.unwrapArray, hasTypeBasic_ident]
  split <;> simp_all

theorem reprField_optNone {a : Ast} {f : StructField} (h : f.isOptional = true) (off : Nat) : reprField a f off .optNone = .none := by
  rw [reprField.eq_def]
  simp only [h, if_true]

theorem reprField_optSome {a : Ast} {f : StructField} {n : String} (h : f.isOptional = true) (hv : f.fieldValue = .none (.ident n))
    (off : Nat) (x : XVal) : reprField a f off (.optSome x) = .some (reprBasic a (.ident n) (off + 4) x) := by
  rw [reprField.eq_def]
  simp only [h, if_true, hv, ArrayType.unwrapArray]

theorem parseU32_dec {t : String} {n : Nat} (hp : parseU32 t = some n) (hpl : plusFree t = true) : parseDecOrHex t = some n := by
  simp only [parseU32, plusFree, parseDecOrHex] at *
  generalize t.toList = cs at *
  split at hpl
  · cases hpl
  · rename_i hplus
    -- no sign to strip, and all digits is not `0x…`: both sides are the decimal value
    split at hp
    · exact (hplus _ rfl).elim
    · split at hp
      · rename_i hd
        split at hp
        · cases hp
          split
          · simp [allDigits] at hd
          · simp [hd]
        · cases hp
      · cases hp

theorem resolve_bound {a : Ast} (F : SFacts a) {sz : ArraySize} {n : Nat} (hok : boundOk a sz = true)
    (h : resolveSize a sz = .ok n) : boundValue a sz = some n := by
  cases sz with
  | known k =>
    cases h
    rfl
  | constant cn =>
    obtain ⟨t, n', hc, hp⟩ := boundOk_constant hok
    simp only [resolveSize, Ast.getConst, hc, ConstantType.display, hp, G.ok.injEq] at h
    simp only [boundValue, hc, parseU32_dec hp (F.plusFree cn t hc), h]

theorem resolveOpt_limit {a : Ast} (F : SFacts a) {m : Option ArraySize} {lim : Option Nat} (hsz : optBoundOk a m = true)
    (h : resolveOpt a m = .ok lim) : limitOf a m = some lim := by
  cases m with
  | none =>
    cases h
    rfl
  | some sz =>
    simp only [resolveOpt, G.bind_eq_ok_iff, G.ok.injEq] at h
    obtain ⟨n, hn, rfl⟩ := h
    simp only [limitOf, resolve_bound F hsz hn, Option.map_some]

theorem enumHasValue_eq (a : Ast) (e : Enum) (d : Nat) : enumHasValue a e d = (enumMemberName a e d).isSome := by
  rw [Bool.eq_iff_iff]
  simp only [enumHasValue, enumMemberName, Option.isSome_map, List.find?_isSome, List.any_eq_true]

theorem enum_value_lt {a : Ast} (e : Enum) (he : enumOk e = true) (d : Nat) (h : enumHasValue a e d = true) : d < 2^31 := by
  simp only [enumHasValue, List.any_eq_true] at h
  obtain ⟨v, hv, hm⟩ := h
  obtain ⟨i, hval, h0, h31⟩ := (enumOk_facts he).2.2.1 v hv
  simp only [enumMemberValue_numeric a hval h0, beq_iff_eq, Option.some.injEq] at hm
  omega

end Fx
