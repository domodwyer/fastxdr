/-
  Fx.Lemmas.Leaves — every opaque leaf of a decoded value is the window of the input at the offset where its bytes sit.
-/
import Fx.Lemmas.Advance
namespace Fx

/-- `bs` is the window of `c`'s buffer that starts at absolute offset `off` -/
def leafIn (c : Cur) (off : Nat) (bs : List Byte) : Prop :=
  c.off ≤ off ∧ off + bs.length ≤ c.off + c.remaining ∧ bs = (c.data.drop (off - c.off)).take bs.length

mutual
def Val.LeavesIn (c : Cur) : Val → Prop
  | .bytes off bs => leafIn c off bs
  | .vec xs => xs.LeavesIn c
  | .arr xs => xs.LeavesIn c
  | .some v => v.LeavesIn c
  | .struct _ _ fs => fs.LeavesIn c
  | .tuple _ _ v => v.LeavesIn c
  | .newtype _ v => v.LeavesIn c
  | _ => True
def Vals.LeavesIn (c : Cur) : Vals → Prop
  | .nil => True
  | .cons v vs => v.LeavesIn c ∧ vs.LeavesIn c
end

theorem leafIn_log (c : Cur) (l) (off bs) : leafIn { c with log := l } off bs ↔ leafIn c off bs := Iff.rfl

theorem Vals.leavesIn_snoc {c : Cur} : ∀ (vs : Vals) (v : Val), vs.LeavesIn c → v.LeavesIn c → (vs.snoc v).LeavesIn c
  | .nil, v, _, hv => by simp [Vals.snoc, Vals.LeavesIn, hv]
  | .cons x xs, v, hvs, hv => by
    simp only [Vals.snoc, Vals.LeavesIn] at *
    exact ⟨hvs.1, Vals.leavesIn_snoc xs v hvs.2 hv⟩

/-- stated for every earlier buffer `c0` of `f`'s cursor, so that sequencing need not carry leaves back from a later cursor -/
def LeavesV (f : Cur → Res Val) : Prop := ∀ c0 c v c', Adv c0 c → f c = .ok v c' → v.LeavesIn c0
def LeavesVs (f : Cur → Res Vals) : Prop := ∀ c0 c vs c', Adv c0 c → f c = .ok vs c' → vs.LeavesIn c0

/-- the one place a leaf is made -/
theorem readBytes_leaves (n : Nat) : LeavesV (readBytes n) := by
  intro c0 c v c' ⟨k, hk, ho, hd⟩ h
  obtain ⟨_, hl, rfl⟩ := readBytes_ok h
  have hlen : (c.data.take n).length = n := List.length_take_of_le (Nat.le_of_add_right_le hl)
  simp only [Cur.remaining] at hl hk
  have hr : c.data.length = c0.data.length - k := by simp [hd]
  refine ⟨by omega, ?_, ?_⟩
  · simp only [hlen, Cur.remaining]
    omega
  · rw [hlen, hd, ho, Nat.add_sub_cancel_left]

theorem readVariableBytes_leaves (m : Option Nat) : LeavesV (readVariableBytes m) := by
  intro c0 c v c' hadv h
  obtain ⟨n, c1, h1, h2⟩ := Res.bind_eq_ok h
  split at h2
  · cases h2
  · exact readBytes_leaves n c0 c1 v c' (hadv.trans (readers_adv.u32 _ _ _ h1)) h2

theorem LeavesV.flat {f : Cur → Res Val} (h : ∀ c v c', f c = .ok v c' → ∀ c0, v.LeavesIn c0) : LeavesV f :=
  fun c0 c v c' _ e => h c v c' e c0

theorem readPrim_leaves (pr : Prim) : LeavesV (readPrim pr) := LeavesV.flat fun c v c' h c0 => by
  cases pr <;> obtain ⟨_, _, rfl⟩ := Res.map_eq_ok h <;> trivial

theorem readString_leaves (m : Option Nat) : LeavesV (readString m) := LeavesV.flat fun c v c' h c0 => by
  obtain ⟨b, c1, _, _, rfl, _⟩ := readString_ok h
  trivial

theorem evalOpt_leaves {eI : Cur → Res Val} (h : LeavesV eI) : LeavesV (evalOpt eI) := by
  intro c0 c v c' hadv he
  obtain ⟨m, c1, h1, ⟨rfl, _⟩ | ⟨w, c2, h2, rfl, _⟩⟩ := evalOpt_ok he
  · trivial
  · exact h c0 c1 w c2 (hadv.trans (readers_adv.u32 _ _ _ h1)) h2

theorem arrLoop_leaves (dec : Cur → Res Val) (ws : Val → Nat) (hd : LeavesV dec) (k : Nat) :
    ∀ (c0 c : Cur) (sum : Nat) (acc : Vals) (r : Vals × Nat) (c' : Cur),
      Adv c0 c → acc.LeavesIn c0 → arrLoop dec ws k c sum acc = .ok r c' → r.1.LeavesIn c0 := by
  induction k with
  | zero =>
    intro c0 c sum acc r c' _ hacc h
    cases h
    exact hacc
  | succ k ih =>
    intro c0 c sum acc r c' hadv hacc h
    obtain ⟨t, ct, hdec, hle, h2⟩ := arrLoop_succ_ok h
    exact ih c0 _ _ _ _ _ (hadv.trans (Adv.stepped c hle)) (acc.leavesIn_snoc t hacc (hd c0 c t ct hadv hdec)) h2

theorem readVariableArray_leaves {dec : Cur → Res Val} {ws : Val → Nat} (m : Option Nat) (hd : LeavesV dec) : LeavesV (readVariableArray dec ws m) := by
  intro c0 c v c' hadv h
  obtain ⟨n, c1, out, sum, c3, h1, _, h3, _, _, rfl⟩ := readVariableArray_ok h
  exact arrLoop_leaves dec ws hd n c0 _ 0 .nil (out, sum) c3 ((hadv.trans (readers_adv.u32 _ _ _ h1)).addLog _) trivial h3

theorem eval_leaves (a : Ast) (p : Plans) (fuel : Nat) :
    Evals (fun n => LeavesV (evalImpl a p fuel n)) (fun b => LeavesV (evalBasic a p fuel b)) (fun fd => LeavesV (evalField a p fuel fd))
      (fun k b => LeavesVs (evalRepeat a p fuel k b)) (fun fs => LeavesVs (evalFields a p fuel fs)) := by
  induction fuel with
  | zero => refine ⟨?_, ?_, ?_, ?_, ?_⟩ <;> intros <;> intro _ _ _ _ _ h <;> cases h
  | succ f ih =>
    obtain ⟨ihI, ihB, ihF, ihR, ihFs⟩ := ih
    obtain ⟨adI, adB, adF, _, _⟩ := eval_adv a p f
    refine ⟨fun n c0 c v c' hadv h => ?_, fun b c0 c v c' hadv h => ?_, fun fd c0 c v c' hadv h => ?_,
      fun k b c0 c v c' hadv h => ?_, fun fs c0 c v c' hadv h => ?_⟩
    · cases hfi : p.findImpl n with
      | none =>
        rw [evalImpl_none hfi] at h
        cases h
      | some i =>
        cases hb : i.body with
        | struct fs =>
          rw [evalImpl_struct hfi hb] at h
          obtain ⟨vs, c1, h1, h2⟩ := Res.bind_eq_ok h
          cases h2
          -- `(Val.struct …).LeavesIn c0` is `vs.LeavesIn c0` by unfolding; `(… :)` elaborates first
          exact (ihFs _ c0 c _ _ hadv h1 :)
        | union u =>
          rw [evalImpl_union hfi hb] at h
          obtain ⟨d, c1, h1, h2⟩ := Res.bind_eq_ok h
          have a1 := hadv.trans (adB _ _ _ _ h1)
          unfold evalArms at h2
          split at h2
          · split at h2
            · obtain ⟨v2, c2, h3, h4⟩ := Res.bind_eq_ok h2
              cases h4
              exact (ihF _ c0 c1 _ _ a1 h3 :)
            · cases h2
              trivial
          · split at h2
            · obtain ⟨v2, c2, h3, h4⟩ := Res.bind_eq_ok h2
              cases h4
              exact (ihF _ c0 c1 _ _ a1 h3 :)
            · cases h2
            · cases h2
        | enum arms =>
          rw [evalImpl_enum hfi hb] at h
          obtain ⟨x, c1, _, h2⟩ := Res.bind_eq_ok h
          split at h2 <;> cases h2
          trivial
        | typedef fd =>
          rw [evalImpl_typedef hfi hb] at h
          obtain ⟨v2, c1, h1, h2⟩ := Res.bind_eq_ok h
          cases h2
          exact (ihF _ c0 c _ _ hadv h1 :)
    · cases b with
      | prim pr => exact readPrim_leaves pr c0 c v c' hadv h
      | string => exact readString_leaves none c0 c v c' hadv h
      | «opaque» => exact readVariableBytes_leaves none c0 c v c' hadv h
      | tryFrom n => exact ihI n c0 c v c' hadv h
    · cases fd with
      | one b => exact ihB b c0 c v c' hadv h
      | fixedBytes n => exact readBytes_leaves n c0 c v c' hadv h
      | fixedArr n b =>
        obtain ⟨vs, c1, h1, h2⟩ := Res.bind_eq_ok h
        cases h2; exact (ihR n b c0 c _ _ hadv h1 :)
      | varBytes m => exact readVariableBytes_leaves m c0 c v c' hadv h
      | varString m => exact readString_leaves m c0 c v c' hadv h
      | varArr ty g m => exact readVariableArray_leaves m (ihI ty) c0 c v c' hadv h
    · cases k with
      | zero => cases h; trivial
      | succ k =>
        obtain ⟨v, c1, h1, h2⟩ := Res.bind_eq_ok h
        obtain ⟨vs2, c2, h3, h4⟩ := Res.bind_eq_ok h2
        cases h4
        exact ⟨ihB b c0 c _ _ hadv h1, ihR k b c0 c1 _ _ (hadv.trans (adB _ _ _ _ h1)) h3⟩
    · cases fs with
      | nil => cases h; trivial
      | cons fld rest =>
        rw [evalFields_cons] at h
        obtain ⟨v, c1, h1, h2⟩ := Res.bind_eq_ok h
        obtain ⟨vs2, c2, h3, h4⟩ := Res.bind_eq_ok h2
        cases h4
        cases fld with
        | plain nm fd => exact ⟨ihF fd c0 c _ _ hadv h1, ihFs rest c0 c1 _ _ (hadv.trans (adF _ _ _ _ h1)) h3⟩
        | optional nm ty =>
          exact ⟨evalOpt_leaves (ihI ty) c0 c _ _ hadv h1,
            ihFs rest c0 c1 _ _ (hadv.trans (evalOpt_adv (adI ty) _ _ _ h1)) h3⟩

end Fx
