/-
  Fx.Lemmas.ParseAcc — the big-step rules of Lemmas/PegRel lifted to texts: `Acc e T TS C` (e accepts exactly the text `T`,
  with tokens `TS`, in front of every continuation satisfying `C`), sequencing through a layout, repetition over elements.
-/
import Fx.Lemmas.ParseLeaf
namespace Fx.Parse
open Fx.Peg

def Acc (e : Expr) (T : List Char) (TS : List Pair) (C : List Char → Prop) : Prop :=
  ∀ p r, C r → EOk X false e ⟨p, T ++ r⟩ ⟨p + T.length, r⟩ TS

def Rej (e : Expr) (C : List Char → Prop) : Prop := ∀ p r, C r → EFail X false e ⟨p, r⟩

theorem Acc.mono {e : Expr} {T : List Char} {TS : List Pair} {C C' : List Char → Prop} (h : Acc e T TS C) (hc : ∀ r, C' r → C r) :
    Acc e T TS C' := fun p r hr => h p r (hc r hr)

theorem Rej.mono {e : Expr} {C C' : List Char → Prop} (h : Rej e C) (hc : ∀ r, C' r → C r) : Rej e C' :=
  fun p r hr => h p r (hc r hr)

/-- the rules yield positions and texts as syntactic sums (`p + 1 + 1 + body.length`, `T1 ++ (L.text ++ T2)`): a composition
    is cast to the shape its user states; likewise `Acc.castT` -/
theorem EOk.cast {a : Bool} {e : Expr} {s s' s'' : St} {ts ts' : List Pair} (h : EOk X a e s s' ts) (h1 : s' = s'') (h2 : ts = ts') :
    EOk X a e s s'' ts' := by subst h1; subst h2; exact h

theorem Acc.castT {e : Expr} {T T' : List Char} {TS TS' : List Pair} {C : List Char → Prop} (h : Acc e T TS C) (h1 : T = T')
    (h2 : TS = TS') : Acc e T' TS' C := by subst h1; subst h2; exact h

theorem Acc.str (k : List Char) : Acc (.str k) k [] (fun _ => True) :=
  fun p r _ => EOk.str (matchStr_self k r p)

theorem Rej.str_head {c : Char} {k : List Char} : Rej (.str (c :: k)) (NotStarts c) :=
  fun _ _ hr => EFail.str (matchStr_head_ne hr)

/-- `hafter`: the first part gets the continuation it asks for; `hstart`: the second part does not begin with layout, so the
    skip stops in front of it -/
theorem Acc.seq {a b : Expr} {T1 T2 : List Char} {TS1 TS2 : List Pair} {C1 C2 : List Char → Prop}
    (ha : Acc a T1 TS1 C1) (L : Layout) (hL : L.ok = true) (hb : Acc b T2 TS2 C2)
    (hafter : ∀ r, C2 r → C1 (L.text ++ (T2 ++ r))) (hstart : ∀ r, C2 r → NoLayoutStart (T2 ++ r)) :
    Acc (.seq a b) (T1 ++ (L.text ++ T2)) (TS1 ++ TS2) C2 := by
  intro p r hr
  have A := ha p (L.text ++ (T2 ++ r)) (hafter r hr)
  have S := skOk_layout L (p + T1.length) (T2 ++ r) hL (hstart r hr)
  have B := hb (p + T1.length + L.text.length) r hr
  have := EOk.seq A S B
  refine EOk.cast (by simpa [List.append_assoc] using this) ?_ rfl
  simp [List.length_append]; omega

theorem Acc.then {a b : Expr} {T1 T2 : List Char} {TS1 TS2 : List Pair} {C : List Char → Prop} (ha : Acc a T1 TS1 (fun _ => True))
    (L : Layout) (hL : L.ok = true) (hb : Acc b T2 TS2 C) (ht : TokStart T2) :
    Acc (.seq a b) (T1 ++ (L.text ++ T2)) (TS1 ++ TS2) C :=
  ha.seq L hL hb (hafter := fun _ _ => trivial) (hstart := fun _ _ => ht.noLayout)

theorem Acc.thenSym {a b : Expr} {T1 T2 : List Char} {TS1 TS2 : List Pair} {C : List Char → Prop} (ha : Acc a T1 TS1 NoIdentStart)
    (L : Layout) (hL : L.ok = true) (hb : Acc b T2 TS2 C) (hs : SymStart T2) :
    Acc (.seq a b) (T1 ++ (L.text ++ T2)) (TS1 ++ TS2) C := by
  refine ha.seq L hL hb (hafter := fun r _ => ?_) (hstart := fun _ _ => hs.tok.noLayout)
  obtain ⟨c, cs, rfl, hc, _, _⟩ := hs
  exact noIdent_layout hL (Ahead.cons hc)

/-- no layout in between; the second part may be empty (an option or repetition that matches nothing) -/
theorem Acc.seq0 {a b : Expr} {T1 T2 : List Char} {TS1 TS2 : List Pair} {C1 C2 : List Char → Prop}
    (ha : Acc a T1 TS1 C1) (hb : Acc b T2 TS2 C2)
    (hafter : ∀ r, C2 r → C1 (T2 ++ r)) (hstart : ∀ r, C2 r → NoLayoutStart (T2 ++ r)) :
    Acc (.seq a b) (T1 ++ T2) (TS1 ++ TS2) C2 := by
  have := ha.seq nl rfl hb (hafter := by simpa [nl, Layout.text, segsText] using hafter) (hstart := hstart)
  simpa [nl, Layout.text, segsText] using this

theorem Acc.alt1 {a b : Expr} {T : List Char} {TS : List Pair} {C : List Char → Prop} (h : Acc a T TS C) : Acc (.alt a b) T TS C :=
  fun p r hr => EOk.alt1 (h p r hr)

theorem Acc.alt2 {a b : Expr} {T : List Char} {TS : List Pair} {C C' : List Char → Prop} (ha : Rej a C') (h : Acc b T TS C)
    (hc : ∀ r, C r → C' (T ++ r)) : Acc (.alt a b) T TS C :=
  fun p r hr => EOk.alt2 (ha p (T ++ r) (hc r hr)) (h p r hr)

theorem Rej.alt {a b : Expr} {C : List Char → Prop} (ha : Rej a C) (hb : Rej b C) : Rej (.alt a b) C :=
  fun p r hr => EFail.alt (ha p r hr) (hb p r hr)

theorem Rej.seq1 {a b : Expr} {C : List Char → Prop} (ha : Rej a C) : Rej (.seq a b) C :=
  fun p r hr => EFail.seq1 (ha p r hr)

theorem Acc.opt_some {e : Expr} {T : List Char} {TS : List Pair} {C : List Char → Prop} (h : Acc e T TS C) : Acc (.opt e) T TS C :=
  fun p r hr => EOk.opt_some (h p r hr)

theorem Acc.opt_none {e : Expr} {C : List Char → Prop} (h : Rej e C) : Acc (.opt e) [] [] C :=
  fun p r hr => by simpa using EOk.opt_none (h p r hr)

theorem Acc.plus {e : Expr} {T : List Char} {TS : List Pair} {C : List Char → Prop} (h : Acc (.seq e (.star e)) T TS C) :
    Acc (.plus e) T TS C := fun p r hr => EOk.plus (h p r hr)

theorem Acc.normal {n : String} {rl : Rule} {T : List Char} {TS : List Pair} {C : List Char → Prop} (hf : X.find n = some rl)
    (hn : (n == "WHITESPACE" || n == "COMMENT") = false) (ht : rl.ty = .normal) (h : Acc rl.body T TS C) :
    Acc (.ref n) T [Pair.mk n T TS] C := by
  intro p r hr
  have := ROk.normal hf hn ht (h p r hr)
  rw [consumed_app] at this
  exact EOk.ref this

theorem Acc.silent {n : String} {rl : Rule} {T : List Char} {TS : List Pair} {C : List Char → Prop} (hf : X.find n = some rl)
    (hn : (n == "WHITESPACE" || n == "COMMENT") = false) (ht : rl.ty = .silent) (h : Acc rl.body T TS C) :
    Acc (.ref n) T TS C :=
  fun p r hr => EOk.ref (ROk.silent hf hn ht (h p r hr))

theorem Rej.normal {n : String} {rl : Rule} {C : List Char → Prop} (hf : X.find n = some rl)
    (hn : (n == "WHITESPACE" || n == "COMMENT") = false) (ht : rl.ty = .normal) (h : Rej rl.body C) : Rej (.ref n) C :=
  fun p r hr => EFail.ref (RFail.normal hf hn ht (h p r hr))

theorem Rej.silent {n : String} {rl : Rule} {C : List Char → Prop} (hf : X.find n = some rl)
    (hn : (n == "WHITESPACE" || n == "COMMENT") = false) (ht : rl.ty = .silent) (h : Rej rl.body C) : Rej (.ref n) C :=
  fun p r hr => EFail.ref (RFail.silent hf hn ht (h p r hr))

theorem Acc.rule {n : String} {b : Expr} {T : List Char} {TS : List Pair} {C : List Char → Prop} (h : Has n .normal b)
    (hb : Acc b T TS C) : Acc (.ref n) T [Pair.mk n T TS] C :=
  Acc.normal h.1 h.2 rfl hb

theorem Acc.ruleS {n : String} {b : Expr} {T : List Char} {TS : List Pair} {C : List Char → Prop} (h : Has n .silent b)
    (hb : Acc b T TS C) : Acc (.ref n) T TS C :=
  Acc.silent h.1 h.2 rfl hb

theorem Rej.rule {n : String} {ty : RuleTy} {b : Expr} {C : List Char → Prop} (h : Has n ty b) (hb : Rej b C)
    (hty : ty ≠ .atomic := by decide) : Rej (.ref n) C :=
  fun p r hr => EFail.ref (h.fail (hb p r hr) hty)

theorem Rej.kw {n : String} {ty : RuleTy} {c : Char} {k : List Char} {rest : Expr} (h : Has n ty (.seq (.str (c :: k)) rest))
    (hty : ty ≠ .atomic := by decide) : Rej (.ref n) (NotStarts c) :=
  Rej.rule h (Rej.seq1 Rej.str_head) hty

theorem Acc.ident {n : List Char} (h : validIdent n = true) : Acc (.ref "ident") n [Pair.mk "ident" n []] NoIdentStart :=
  fun _ _ hr => EOk.ref (ident_ok h hr)

theorem Rej.ident : Rej (.ref "ident") NoIdentStart := fun _ _ hr => EFail.ref (ident_fail hr)

theorem Acc.lit (l : Lit) (h : l.ok = true) : Acc (.alt (.ref "ident_value") (.ref "ident_const")) l.text l.tokens NoIdentStart :=
  fun _ _ hr => lit_ok l h hr

/-! Repetition over elements, each followed by a layout.  When `e` at last rejects, pest's `e*` restores the position IN FRONT of the skip it had just made: the star ends before the layout
after the last element, and the enclosing sequence skips it.  `tailText`/`endRest`/`consumedLen` follow the loop from a layout `L0`
on (what lies ahead, what is left, how much it took); `starText`/`lastLayout` are the closed form in the statement of `star_elems`. -/

def tailText (L0 : Layout) : List Elem → List Char → List Char
  | [], r => L0.text ++ r
  | el :: els, r => L0.text ++ (el.T ++ tailText el.L els r)

def endRest (L0 : Layout) : List Elem → List Char → List Char
  | [], r => L0.text ++ r
  | el :: els, r => endRest el.L els r

def consumedLen (L0 : Layout) : List Elem → Nat
  | [] => 0
  | el :: els => L0.text.length + el.T.length + consumedLen el.L els

/-- every element is accepted in front of what actually follows it -/
def elemsOk (e : Expr) (r : List Char) : List Elem → Prop
  | [] => True
  | el :: els => el.T ≠ [] ∧ el.L.ok = true ∧ NoLayoutStart (el.T ++ tailText el.L els r) ∧
      (∀ p, EOk X false e ⟨p, el.T ++ tailText el.L els r⟩ ⟨p + el.T.length, tailText el.L els r⟩ el.TS) ∧ elemsOk e r els

theorem rep_elems (e : Expr) (r : List Char) (hr : NoLayoutStart r) (hrej : ∀ p, EFail X false e ⟨p, r⟩) :
    ∀ (els : List Elem) (L0 : Layout) (p : Nat) (acc : List Pair), L0.ok = true → elemsOk e r els →
      RepOk X false e ⟨p, tailText L0 els r⟩ acc ⟨p + consumedLen L0 els, endRest L0 els r⟩ (acc ++ elemToks els) := by
  intro els
  induction els with
  | nil =>
    intro L0 p acc hL _
    simp only [tailText, endRest, consumedLen, elemToks, List.map_nil, List.flatten_nil, List.append_nil, Nat.add_zero]
    exact RepOk.stop (skOk_layout L0 p r hL hr) (hrej _)
  | cons el els ih =>
    intro L0 p acc hL hok
    obtain ⟨hne, hLe, hnl, hacc, hrest⟩ := hok
    have S := skOk_layout L0 p (el.T ++ tailText el.L els r) hL hnl
    have E := hacc (p + L0.text.length)
    have R := ih el.L (p + L0.text.length + el.T.length) (acc ++ el.TS) hLe hrest
    have hpos : (⟨p + L0.text.length + el.T.length, tailText el.L els r⟩ : St).pos ≠ (⟨p, tailText L0 (el :: els) r⟩ : St).pos := by
      have : 0 < el.T.length := List.length_pos_iff.mpr hne
      simp only; omega
    have := RepOk.step (s := ⟨p, tailText L0 (el :: els) r⟩) S E hpos R
    simp only [endRest, consumedLen, elemToks, List.map_cons, List.flatten_cons]
    simp only [elemToks, List.append_assoc] at this
    have e1 : p + (L0.text.length + el.T.length + consumedLen el.L els) = p + L0.text.length + el.T.length + consumedLen el.L els := by omega
    rw [e1]
    exact this

/-- without the layout after the last element -/
def starText : List Elem → List Char
  | [] => []
  | [el] => el.T
  | el :: el' :: els => el.T ++ (el.L.text ++ starText (el' :: els))

def lastLayout : List Elem → Layout
  | [] => ⟨[], []⟩
  | [el] => el.L
  | _ :: el' :: els => lastLayout (el' :: els)

theorem tailText_eq : ∀ (els : List Elem) (el : Elem) (r : List Char),
    el.T ++ tailText el.L els r = starText (el :: els) ++ ((lastLayout (el :: els)).text ++ r) := by
  intro els
  induction els with
  | nil => intro el r; simp [tailText, starText, lastLayout]
  | cons el' els ih => intro el r; simp [tailText, starText, lastLayout, ih el' r, List.append_assoc]

theorem endRest_eq : ∀ (els : List Elem) (el : Elem) (r : List Char),
    endRest el.L els r = (lastLayout (el :: els)).text ++ r := by
  intro els
  induction els with
  | nil => intro el r; simp [endRest, lastLayout]
  | cons el' els ih => intro el r; simp [endRest, lastLayout, ih el' r]

theorem consumedLen_eq : ∀ (els : List Elem) (el : Elem),
    el.T.length + consumedLen el.L els = (starText (el :: els)).length := by
  intro els
  induction els with
  | nil => intro el; simp [consumedLen, starText]
  | cons el' els ih =>
    intro el
    have := ih el'
    simp only [consumedLen, starText, List.length_append]
    omega

/-- **`e*` over a non-empty list of elements**: it consumes the elements and the layouts between them, stops in front of
    the layout that follows the last one, and yields the elements' tokens in order -/
theorem star_elems (e : Expr) (r : List Char) (hr : NoLayoutStart r) (hrej : ∀ p, EFail X false e ⟨p, r⟩)
    (el : Elem) (els : List Elem) (hok : elemsOk e r (el :: els)) (p : Nat) :
    EOk X false (.star e) ⟨p, starText (el :: els) ++ ((lastLayout (el :: els)).text ++ r)⟩
      ⟨p + (starText (el :: els)).length, (lastLayout (el :: els)).text ++ r⟩ (elemToks (el :: els)) := by
  obtain ⟨_, hLe, _, hacc, hrest⟩ := hok
  have E := hacc p
  have R := rep_elems e r hr hrej els el.L (p + el.T.length) el.TS hLe hrest
  have := EOk.star_cons E R
  rw [tailText_eq] at this
  rw [endRest_eq] at this
  refine EOk.cast this ?_ (by simp [elemToks])
  have := consumedLen_eq els el
  congr 1; omega

theorem Acc.star_nil {e : Expr} {Cend : List Char → Prop} (hrej : Rej e Cend) : Acc (.star e) [] [] Cend :=
  fun p r hr => by simpa using EOk.star_nil (hrej p r hr)

def nextOf : List Elem → List Char → List Char
  | [], r => r
  | el :: els, r => el.T ++ tailText el.L els r

theorem tailText_next (L0 : Layout) (els : List Elem) (r : List Char) : tailText L0 els r = L0.text ++ nextOf els r := by
  cases els <;> rfl

/-- `CE`: what an element asks of its continuation; `Nx`: the text after a layout (next element or closer): it holds of `r`
    and of every element's text, and gives `CE` across a layout -/
theorem elemsOk_of {e : Expr} (CE Nx : List Char → Prop) (r : List Char) (hr : Nx r) (hNx : ∀ x, Nx x → NoLayoutStart x)
    (hCE : ∀ (L : Layout) x, L.ok = true → Nx x → CE (L.text ++ x)) :
    ∀ {els : List Elem}, (∀ el ∈ els, el.T ≠ [] ∧ el.L.ok = true ∧ Acc e el.T el.TS CE ∧ ∀ y, Nx (el.T ++ y)) →
      elemsOk e r els ∧ Nx (nextOf els r) := by
  intro els
  induction els with
  | nil => intro _; exact ⟨trivial, hr⟩
  | cons el els ih =>
    intro h
    obtain ⟨hne, hL, hacc, hnx⟩ := h el (by simp)
    obtain ⟨hrest, hnext⟩ := ih (fun x hx => h x (by simp [hx]))
    refine ⟨⟨hne, hL, hNx _ (hnx _), ?_, hrest⟩, hnx _⟩
    intro p
    rw [tailText_next]
    exact hacc p _ (hCE el.L _ hL hnext)

theorem elemsOk_lastLayout {e : Expr} {r : List Char} : ∀ {els : List Elem}, elemsOk e r els → (lastLayout els).ok = true
  | [], _ => rfl
  | [_], ⟨_, hL, _⟩ => hL
  | _ :: el' :: els, ⟨_, _, _, _, hrest⟩ => elemsOk_lastLayout (els := el' :: els) hrest

theorem elemsText_noLayout {els : List Elem} {Y : List Char} (hel : ∀ el ∈ els, TokStart el.T) (hY : NoLayoutStart Y) :
    NoLayoutStart (elemsText els ++ Y) := by
  cases els with
  | nil => exact hY
  | cons el els => exact (hel el List.mem_cons_self).app.noLayout

theorem starText_last : ∀ (els : List Elem) (el : Elem) (Y : List Char),
    starText (el :: els) ++ ((lastLayout (el :: els)).text ++ Y) = elemsText (el :: els) ++ Y := by
  intro els
  induction els with
  | nil => intro el Y; simp [starText, lastLayout, elemsText]
  | cons el' els ih =>
    intro el Y
    have := ih el' Y
    simp only [starText, lastLayout, elemsText, List.append_assoc] at this ⊢
    rw [this]

/-- **`e* ~ close`**: the elements with the layout after each (the last layout is skipped by the sequence, not by the
    repetition), then what `close` accepts; `Cend` is what the closer starts with, and stops the repetition -/
theorem Acc.star_close {e close : Expr} {Tc : List Char} {TSc : List Pair} {C Cend : List Char → Prop}
    (hclose : Acc close Tc TSc C) (hrej : Rej e Cend) (hCend : ∀ r, Cend r → NoLayoutStart r) (hTc : ∀ r, C r → Cend (Tc ++ r))
    (els : List Elem) (hok : ∀ r, Cend r → elemsOk e r els) :
    Acc (.seq (.star e) close) (elemsText els ++ Tc) (elemToks els ++ TSc) C := by
  intro p r hr
  have hE := hTc r hr
  have hN := hCend _ hE
  cases els with
  | nil =>
    have := EOk.seq (EOk.star_nil (hrej p _ hE)) (skOk_none p _ hN) (hclose p r hr)
    simpa [elemsText, elemToks] using this
  | cons el els =>
    have S := star_elems e (Tc ++ r) hN (fun q => hrej q _ hE) el els (hok _ hE) p
    have K := skOk_layout (lastLayout (el :: els)) (p + (starText (el :: els)).length) (Tc ++ r) (elemsOk_lastLayout (hok _ hE)) hN
    have := EOk.seq S K (hclose _ r hr)
    rw [starText_last] at this
    refine EOk.cast (by simpa [List.append_assoc] using this) ?_ rfl
    have e := congrArg List.length (starText_last els el [])
    simp only [List.length_append, List.append_nil] at e ⊢
    congr 1
    omega

/-- tokens `[] ++ []`: the shape `Acc.seq` produces -/
theorem Acc.star_brace {e : Expr} (hrej : Rej e (Starts '}')) (L : Layout) (hL : L.ok = true) (els : List Elem)
    (hok : ∀ r, Starts '}' r → elemsOk e r els) :
    Acc (.seq (.star e) (.seq (.str ['}']) (.str [';']))) (elemsText els ++ (['}'] ++ (L.text ++ [';']))) (elemToks els ++ ([] ++ []))
      (fun _ => True) :=
  Acc.star_close (Cend := Starts '}')
    ((Acc.str ['}']).seq L hL (Acc.str [';']) (hafter := fun _ _ => trivial)
      (hstart := fun _ _ => (tokStart_cons).noLayout))
    hrej (fun r hr => Starts.ahead hr ⟨by decide, by decide⟩) (fun _ _ => rfl) els hok

/-- `{ e* } ;`, the body of a struct or union -/
theorem Acc.block {e : Expr} (L L' : Layout) (hL : L.ok = true) (hL' : L'.ok = true) (hrej : Rej e (Starts '}')) (els : List Elem)
    (hok : ∀ r, Starts '}' r → elemsOk e r els) (htok : ∀ el ∈ els, TokStart el.T) :
    Acc (.seq (.str ['{']) (.seq (.star e) (.seq (.str ['}']) (.str [';']))))
      (['{'] ++ (L.text ++ (elemsText els ++ (['}'] ++ (L'.text ++ [';']))))) ([] ++ (elemToks els ++ ([] ++ []))) (fun _ => True) :=
  (Acc.str ['{']).seq L hL (Acc.star_brace hrej L' hL' els hok) (hafter := fun _ _ => trivial)
    (hstart := fun r _ => by
      rw [List.append_assoc]
      exact elemsText_noLayout htok (tokStart_cons).noLayout)

end Fx.Parse
