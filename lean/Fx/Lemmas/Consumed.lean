/-
  Fx.Lemmas.Consumed — a successful decode consumes exactly `wire_size()` of what it returns, for ALL byte strings, when the
  size impls match the decoders and union discriminants are one word (`Plans.SizeExact'`).
-/
import Fx.Lemmas.EvalBasics
namespace Fx

/-- what a basic decoder consumed, by `wire_size()` of its value: a `Bytes` reports its payload only, so a counted opaque adds the
    count word and the padding -/
def basicConsumed (p : Plans) : BasicDec → Val → Nat
  | .opaque, v => 4 + wsVal p v + padLen (wsVal p v)
  | _, v => wsVal p v

def fieldConsumed (p : Plans) : FieldDec → Val → Nat
  | .one b, v => basicConsumed p b v
  | .fixedBytes _, v => wsVal p v + padLen (wsVal p v)
  | .varBytes _, v => 4 + wsVal p v + padLen (wsVal p v)
  | _, v => wsVal p v

def isOpaqueDec : BasicDec → Bool
  | .opaque => true
  | _ => false

/-- a repeated element must be word-aligned for `[T; n]::wire_size` (= Σ + pad Σ) to be exact: this excludes `opaque`.  Strings
    are aligned; they are excluded too although the proof does not use it (the emitters never repeat a string) -/
def fieldShapeOk : FieldDec → Bool
  | .fixedArr _ b => !isOpaqueDec b && (match b with | .string => false | _ => true)
  | _ => true

def sizeFieldMatches : StructFieldDec → SizeField → Bool
  | .plain _ fd, sf =>
    fieldShapeOk fd &&
    (match fd with
     | .varBytes _ => sf.pad && sf.plus4
     | .fixedBytes _ => sf.pad && !sf.plus4
     | .one .opaque => false                       -- bracket-less `opaque x;`: the size impl omits the prefix (finding K1)
     | _ => !sf.pad && !sf.plus4)
  | .optional _ _, sf => !sf.pad && !sf.plus4

def sizeFieldsMatch : List StructFieldDec → List SizeField → Bool
  | [], [] => true
  | f :: fs, s :: ss => sizeFieldMatches f s && sizeFieldsMatch fs ss
  | _, _ => false

def armSizeOk (sarms : List SizeArm) (variant : String) (payload : Option FieldDec) : Bool :=
  match payload with
  | none => true
  | some fd =>
    fieldShapeOk fd &&
    (match fd with
     | .one .opaque => false                       -- an `opaque` arm: finding K1
     | .one _ => (match findSizeArm (nonDigitName variant) sarms with | some (.data _ false) => true | _ => false)
     | _ => false)

def implSizeExact (p : Plans) (i : Impl) : Bool :=
  match p.findSize i.name with
  | none => false
  | some s =>
    (match i.body, s.body with
     | .struct fs, .struct sfs => sizeFieldsMatch fs sfs
     | .union u, .union sarms =>
       u.arms.all (fun arm => armSizeOk sarms arm.variant arm.payload) &&
       (match u.tail with
        | .defaultData fd => armSizeOk sarms "default" (some fd)
        | _ => true)
     | .enum _, .enum => true
     | .typedef fd, .typedef opq plus4 =>
       fieldShapeOk fd &&
       (match fd with
        | .varBytes _ => opq && plus4
        | .one .opaque => opq && plus4
        | .fixedBytes _ => opq && !plus4
        | _ => !opq)
     | _, _ => false)

/-- every emitted size impl describes exactly what its decoder consumes (decidable).  It is false at the K1 sites
    (`C02_defect_bare_opaque`), and also for a repeated `opaque` or string; the converse is not proved -/
def Plans.SizeExact (p : Plans) : Bool := p.impls.all (implSizeExact p)

def discIsWord (p : Plans) : BasicDec → Bool
  | .prim .u32 => true | .prim .i32 => true | .prim .bool => true | .prim .f32 => true
  | .tryFrom n => (match p.findImpl n with | some ⟨_, _, .enum _⟩ => true | _ => false)
  | _ => false

/-- the size impl of a union says `4 + …` -/
def Plans.SizeExact' (p : Plans) : Bool :=
  p.SizeExact && p.impls.all fun i => match i.body with | .union u => discIsWord p u.disc | _ => true

structure AdvBy (c c' : Cur) (k : Nat) : Prop where
  le : k ≤ c.remaining
  off : c'.off = c.off + k
  data : c'.data = c.data.drop k
  aligned : k % 4 = 0

theorem AdvBy.trans {a b c : Cur} {k1 k2 : Nat} (h1 : AdvBy a b k1) (h2 : AdvBy b c k2) : AdvBy a c (k1 + k2) := by
  obtain ⟨l1, o1, d1, m1⟩ := h1
  obtain ⟨l2, o2, d2, m2⟩ := h2
  rw [Cur.remaining, d1, List.length_drop] at l2
  exact ⟨Nat.add_le_of_le_sub' l1 l2, by rw [o2, o1, Nat.add_assoc], by rw [d2, d1, List.drop_drop], by rw [Nat.add_mod, m1, m2]⟩

theorem AdvBy.refl (c : Cur) : AdvBy c c 0 := ⟨Nat.zero_le _, by simp, by simp, rfl⟩

theorem AdvBy.addLog {a b : Cur} {k} (h : AdvBy a b k) (e : Ev) : AdvBy a (b.addLog e) k := ⟨h.le, h.off, h.data, h.aligned⟩

theorem AdvBy.of_addLog {a b : Cur} {k} {e : Ev} (h : AdvBy (a.addLog e) b k) : AdvBy a b k := ⟨h.le, h.off, h.data, h.aligned⟩

theorem AdvBy.remaining {c c' : Cur} {k : Nat} (h : AdvBy c c' k) : c'.remaining = c.remaining - k := by
  rw [Cur.remaining, h.data, List.length_drop, Cur.remaining]

theorem AdvBy.stepped_eq {c ct : Cur} {k : Nat} (h : AdvBy c ct k) : c.stepped k ct.log = ct := by
  cases ct
  simp only [Cur.stepped, Cur.advance, ← h.off, ← h.data]

theorem AdvBy.of_eq {a b : Cur} {k k'} (h : AdvBy a b k) (e : k = k') : AdvBy a b k' := e ▸ h

def AdvsBy {α} (k : Nat) (f : Cur → Res α) : Prop := ∀ c v c', f c = .ok v c' → AdvBy c c' k

theorem readRaw_advsBy {α} (k : Nat) (hk : k % 4 = 0) (g : Nat → List Byte → α) : AdvsBy k (readRaw k g) := fun c _ _ h => by
  obtain ⟨rfl, l, _⟩ := readRaw_ok h
  exact ⟨l, rfl, rfl, hk⟩

/-- no `bind` rule: the continuation must return at once or fail -/
theorem AdvsBy.bind_still {α β} {k : Nat} {f : Cur → Res α} {g : α → Cur → Res β} (hf : AdvsBy k f)
    (hg : ∀ v c w c', g v c = .ok w c' → c' = c) : AdvsBy k fun c => (f c).bind g := fun c w c' h => by
  obtain ⟨v, c1, h1, h2⟩ := Res.bind_eq_ok h
  exact hg v c1 w c' h2 ▸ hf c v c1 h1

theorem AdvsBy.map {α β} {k : Nat} {f : Cur → Res α} (hf : AdvsBy k f) (g : α → β) : AdvsBy k fun c => (f c).map g :=
  hf.bind_still fun _ _ _ _ h => by cases h; rfl

theorem readU32_advsBy : AdvsBy 4 readU32 := fun c _ _ h => readRaw_advsBy 4 rfl _ c _ _ (readU32_eq c ▸ h)
theorem readU64_advsBy : AdvsBy 8 readU64 := fun c _ _ h => readRaw_advsBy 8 rfl _ c _ _ (readU64_eq c ▸ h)
theorem readI32_advsBy : AdvsBy 4 readI32 := readU32_advsBy.map _
theorem readBool_advsBy : AdvsBy 4 readBool := readI32_advsBy.bind_still fun i c w c' h => by
  split at h
  · cases h; rfl
  · split at h <;> cases h
    rfl

theorem readPrim_advBy (p : Plans) {pr c v c'} (h : readPrim pr c = .ok v c') : AdvBy c c' (wsVal p v) := by
  cases pr <;> obtain ⟨x, h1, rfl⟩ := Res.map_eq_ok h
  · exact readU32_advsBy _ _ _ h1
  · exact readU64_advsBy _ _ _ h1
  · exact readI32_advsBy _ _ _ h1
  · exact readU64_advsBy.map _ _ _ _ h1
  · exact readU32_advsBy _ _ _ h1
  · exact readU64_advsBy _ _ _ h1
  · exact readBool_advsBy _ _ _ h1

theorem readBytes_advBy (p : Plans) {n c v c'} (h : readBytes n c = .ok v c') :
    AdvBy c c' (wsVal p v + padLen (wsVal p v)) := by
  obtain ⟨rfl, hl, rfl⟩ := readBytes_ok h
  have hlen : (c.data.take n).length = n := List.length_take_of_le (Nat.le_of_add_right_le hl)
  simp only [wsVal, wsBytes, hlen]
  exact ⟨hl, rfl, rfl, padLen_mod n⟩

theorem readVariableBytes_advBy (p : Plans) {m c v c'} (h : readVariableBytes m c = .ok v c') :
    AdvBy c c' (4 + wsVal p v + padLen (wsVal p v)) := by
  obtain ⟨n, c1, h1, h2⟩ := Res.bind_eq_ok h
  split at h2
  · cases h2
  · exact ((readU32_advsBy _ _ _ h1).trans (readBytes_advBy p h2)).of_eq (by omega)

theorem readString_advBy (p : Plans) {m c v c'} (h : readString m c = .ok v c') : AdvBy c c' (wsVal p v) := by
  obtain ⟨b, c1, h1, _, rfl, rfl⟩ := readString_ok h
  have a1 := readVariableBytes_advBy p h1
  obtain ⟨n, _, _, _, _, rfl⟩ := readVariableBytes_ok h1
  exact (a1.addLog _).of_eq (by simp only [payloadOf, wsVal, wsString, wsBytes])

theorem wsSum_snoc (p : Plans) : ∀ (acc : Vals) (t : Val), wsSum p (acc.snoc t) = wsSum p acc + wsVal p t
  | .nil, t => by simp [Vals.snoc, wsSum]
  | .cons x xs, t => by simp only [Vals.snoc, wsSum, wsSum_snoc p xs t]; omega

theorem arrLoop_advBy (p : Plans) (dec : Cur → Res Val)
    (hd : ∀ c v c', dec c = .ok v c' → AdvBy c c' (wsVal p v)) (k : Nat) :
    ∀ (c : Cur) (sum : Nat) (acc : Vals) (out : Vals) (sum' : Nat) (c' : Cur),
      arrLoop dec (wsVal p) k c sum acc = .ok (out, sum') c' →
      ∃ d, AdvBy c c' d ∧ sum' = sum + d ∧ wsSum p out = wsSum p acc + d := by
  induction k with
  | zero => intro c sum acc out sum' c' h; cases h; exact ⟨0, AdvBy.refl c, rfl, rfl⟩
  | succ k ih =>
    intro c sum acc out sum' c' h
    obtain ⟨t, ct, hdec, _, h2⟩ := arrLoop_succ_ok h
    have a1 := hd c t ct hdec
    rw [a1.stepped_eq] at h2
    obtain ⟨d, a2, e1, e2⟩ := ih _ _ _ _ _ _ h2
    exact ⟨wsVal p t + d, a1.trans a2, by omega, by rw [e2, wsSum_snoc]; omega⟩

theorem readVariableArray_advBy (p : Plans) {dec m c v c'}
    (hd : ∀ c v c', dec c = .ok v c' → AdvBy c c' (wsVal p v))
    (h : readVariableArray dec (wsVal p) m c = .ok v c') : AdvBy c c' (wsVal p v) := by
  obtain ⟨n, c1, out, sum, c3, h1, _, h3, rfl, _, rfl⟩ := readVariableArray_ok h
  obtain ⟨d, a3, e1, e2⟩ := arrLoop_advBy p dec hd n _ 0 .nil out sum c3 h3
  -- the elements are whole words, so there is no padding to skip
  have hp0 : padLen sum = 0 := padLen_of_mod sum (by have := a3.aligned; omega)
  have hout : wsSum p out = d := by simpa [wsSum] using e2
  have : sum = d := by omega
  rw [hp0, Cur.advance_zero]
  exact ((readU32_advsBy _ _ _ h1).trans a3.of_addLog).of_eq (by simp only [wsVal, hout, ← this, hp0]; omega)

theorem basicConsumed_eq {b : BasicDec} (h : isOpaqueDec b = false) (p : Plans) (v : Val) : basicConsumed p b v = wsVal p v := by
  cases b <;> first | rfl | cases h

theorem sizeFieldMatches_plain {fd : FieldDec} {nm : String} {sf : SizeField} (h : sizeFieldMatches (.plain nm fd) sf = true)
    (p : Plans) (v : Val) :
    fieldShapeOk fd = true ∧
    fieldConsumed p fd v = wsVal p v + (if sf.pad then padLen (wsVal p v) else 0) + (if sf.plus4 then 4 else 0) := by
  simp only [sizeFieldMatches, Bool.and_eq_true] at h
  refine ⟨h.1, ?_⟩
  have h2 := h.2
  cases fd with
  | one b => cases b <;> simp at h2 <;> simp [fieldConsumed, basicConsumed, h2.1, h2.2]
  | varBytes m =>
    simp at h2
    simp [fieldConsumed, h2.1, h2.2]
    omega
  | _ =>
    simp at h2
    simp [fieldConsumed, h2.1, h2.2]

theorem armSizeOk_some {sarms : List SizeArm} {variant : String} {fd : FieldDec} (h : armSizeOk sarms variant (some fd) = true) :
    ∃ b vn, fd = .one b ∧ isOpaqueDec b = false ∧ findSizeArm (nonDigitName variant) sarms = some (.data vn false) := by
  simp only [armSizeOk, Bool.and_eq_true] at h
  obtain ⟨_, h2⟩ := h
  cases fd with
  | one b =>
    cases b with
    | «opaque» => cases h2
    | _ =>
      simp only at h2
      split at h2
      · exact ⟨_, _, rfl, rfl, ‹_›⟩
      · cases h2
  | _ => cases h2

theorem implSizeExact_findSize {p : Plans} {i : Impl} (h : implSizeExact p i = true) : ∃ sn sg sb, p.findSize i.name = some ⟨sn, sg, sb⟩ := by
  unfold implSizeExact at h
  cases hfs : p.findSize i.name with
  | none => simp [hfs] at h
  | some s => exact ⟨_, _, _, rfl⟩

theorem implSizeExact_struct {p : Plans} {i : Impl} {fs} (h : implSizeExact p i = true) (hb : i.body = .struct fs) :
    ∃ sn sg sfs, p.findSize i.name = some ⟨sn, sg, .struct sfs⟩ ∧ sizeFieldsMatch fs sfs = true := by
  obtain ⟨sn, sg, sb, hfs⟩ := implSizeExact_findSize h
  simp only [implSizeExact, hfs, hb] at h
  cases sb <;> first | exact ⟨sn, sg, _, hfs, h⟩ | cases h

theorem implSizeExact_union {p : Plans} {i : Impl} {u} (h : implSizeExact p i = true) (hb : i.body = .union u) :
    ∃ sn sg sarms, p.findSize i.name = some ⟨sn, sg, .union sarms⟩ ∧
      (∀ arm ∈ u.arms, armSizeOk sarms arm.variant arm.payload = true) ∧
      ∀ fd, u.tail = .defaultData fd → armSizeOk sarms "default" (some fd) = true := by
  obtain ⟨sn, sg, sb, hfs⟩ := implSizeExact_findSize h
  simp only [implSizeExact, hfs, hb] at h
  cases sb with
  | union sarms =>
    simp only [Bool.and_eq_true, List.all_eq_true] at h
    exact ⟨sn, sg, sarms, hfs, h.1, fun fd ht => by simpa only [ht] using h.2⟩
  | _ => cases h

theorem implSizeExact_typedef {p : Plans} {i : Impl} {fd} (h : implSizeExact p i = true) (hb : i.body = .typedef fd) :
    ∃ sn sg opq plus4, p.findSize i.name = some ⟨sn, sg, .typedef opq plus4⟩ ∧ fieldShapeOk fd = true ∧
      ∀ v, fieldConsumed p fd v = wsVal p v + (if opq then padLen (wsVal p v) + (if plus4 then 4 else 0) else 0) := by
  obtain ⟨sn, sg, sb, hfs⟩ := implSizeExact_findSize h
  simp only [implSizeExact, hfs, hb] at h
  cases sb with
  | typedef opq plus4 =>
    simp only [Bool.and_eq_true] at h
    refine ⟨sn, sg, opq, plus4, hfs, h.1, fun v => ?_⟩
    have h2 := h.2
    cases fd with
    | one b =>
      cases b <;> simp at h2 <;> simp [fieldConsumed, basicConsumed, h2]
      omega
    | varBytes m =>
      simp at h2
      simp [fieldConsumed, h2]
      omega
    | _ => simp at h2 <;> simp [fieldConsumed, h2]
  | _ => cases h

theorem disc_advBy {a : Ast} {p : Plans} {f : Nat} {b : BasicDec} {c : Cur} {d : Val} {c1 : Cur} (hb : discIsWord p b = true)
    (h : evalBasic a p f b c = .ok d c1) : AdvBy c c1 4 := by
  cases f with
  | zero => cases h
  | succ f =>
    cases b with
    | prim pr =>
      cases pr with
      | u32 => exact readU32_advsBy.map Val.u32 c d c1 h
      | i32 => exact readI32_advsBy.map Val.i32 c d c1 h
      | f32 => exact readU32_advsBy.map Val.f32 c d c1 h
      | bool => exact readBool_advsBy.map Val.bool c d c1 h
      | _ => cases hb
    | tryFrom n =>
      cases f with
      | zero => cases h
      | succ f =>
        simp only [discIsWord] at hb
        cases hfi : p.findImpl n with
        | none => simp [hfi] at hb
        | some i =>
          obtain ⟨nm, g, body⟩ := i
          rw [hfi] at hb
          cases body with
          | enum arms =>
            rw [evalBasic_tryFrom, evalImpl_enum hfi rfl] at h
            exact (readI32_advsBy.bind_still fun i c w c' h => by split at h <;> cases h; rfl) c d c1 h
          | _ => cases hb
    | _ => cases hb

/-- A named decoder consumes `wsVal` of its value, a field decoder `fieldConsumed`: the size impl of the enclosing struct or
    typedef adds the difference (`SizeField.pad/plus4`), and `SizeExact'` says the two agree field by field; a union arm admits
    only payloads that need no correction.  Alignment spares `[T; n]` and `Vec<T>` a padding of their own. -/
theorem eval_consumed (a : Ast) (p : Plans) (hp : p.SizeExact' = true) (fuel : Nat) :
    Evals (fun n => ∀ c v c', evalImpl a p fuel n c = .ok v c' → AdvBy c c' (wsVal p v))
      (fun b => ∀ c v c', evalBasic a p fuel b c = .ok v c' → AdvBy c c' (basicConsumed p b v))
      (fun fd => ∀ c v c', fieldShapeOk fd = true → evalField a p fuel fd c = .ok v c' → AdvBy c c' (fieldConsumed p fd v))
      (fun k b => ∀ c vs c', isOpaqueDec b = false → evalRepeat a p fuel k b c = .ok vs c' → AdvBy c c' (wsSum p vs))
      (fun fs => ∀ sfs c vs c', sizeFieldsMatch fs sfs = true → evalFields a p fuel fs c = .ok vs c' →
        AdvBy c c' (wsFields p sfs vs)) := by
  simp only [Plans.SizeExact', Plans.SizeExact, Bool.and_eq_true, List.all_eq_true] at hp
  induction fuel with
  | zero => refine ⟨?_, ?_, ?_, ?_, ?_⟩ <;> intros <;> rename_i h <;> cases h
  | succ f ih =>
    obtain ⟨ihI, ihB, ihF, ihR, ihFs⟩ := ih
    refine ⟨?_, ?_, ?_, ?_, ?_⟩
    · intro n c v c' h
      cases hfi : p.findImpl n with
      | none =>
        rw [evalImpl_none hfi] at h
        cases h
      | some i =>
        obtain ⟨hmem, rfl⟩ := Plans.findImpl_some hfi
        have hse := hp.1 i hmem
        cases hb : i.body with
        | struct fs =>
          obtain ⟨sn, sg, sfs, hfs, hm⟩ := implSizeExact_struct hse hb
          rw [evalImpl_struct hfi hb] at h
          obtain ⟨vs, c1, h1, h2⟩ := Res.bind_eq_ok h
          cases h2
          simp only [wsVal, hfs]
          exact ihFs fs sfs c vs c' hm h1
        | union u =>
          obtain ⟨sn, sg, sarms, hfs, harms, htail⟩ := implSizeExact_union hse hb
          have hdisc := hp.2 i hmem
          rw [hb] at hdisc
          rw [evalImpl_union hfi hb] at h
          obtain ⟨d, c1, h1, h2⟩ := Res.bind_eq_ok h
          have hd4 := disc_advBy hdisc h1
          have armCase : ∀ (variant : String) (fd : FieldDec) (v2 : Val) (c2 : Cur),
              armSizeOk sarms variant (some fd) = true → evalField a p f fd c1 = .ok v2 c2 →
              AdvBy c c2 (wsVal p (.tuple i.name (nonDigitName variant) v2)) := by
            intro variant fd v2 c2 hok hev
            obtain ⟨b, vn, rfl, hb', hfind⟩ := armSizeOk_some hok
            have hF := ihF _ c1 v2 c2 rfl hev
            simp only [wsVal, hfs, hfind]
            exact (hd4.trans hF).of_eq (by simp [fieldConsumed, basicConsumed_eq hb'])
          unfold evalArms at h2
          split at h2
          · rename_i arm harm
            have hok := harms arm (selectArm_mem harm)
            split at h2
            · rename_i fd hpay
              obtain ⟨v2, c2, h3, h4⟩ := Res.bind_eq_ok h2
              cases h4
              exact armCase arm.variant fd v2 c' (hpay ▸ hok) h3
            · cases h2; exact hd4
          · split at h2
            · rename_i fd htl
              obtain ⟨v2, c2, h3, h4⟩ := Res.bind_eq_ok h2
              cases h4
              exact armCase "default" fd v2 c' (htail fd htl) h3
            · cases h2
            · cases h2
        | enum arms =>
          rw [evalImpl_enum hfi hb] at h
          obtain ⟨x, c1, h1, h2⟩ := Res.bind_eq_ok h
          split at h2
          · cases h2
            exact readI32_advsBy c x _ h1
          · cases h2
        | typedef fd =>
          obtain ⟨sn, sg, opq, plus4, hfs, hshape, hcons⟩ := implSizeExact_typedef hse hb
          rw [evalImpl_typedef hfi hb] at h
          obtain ⟨v2, c1, h1, h2⟩ := Res.bind_eq_ok h
          cases h2
          simp only [wsVal, hfs]
          exact (ihF fd c v2 c' hshape h1).of_eq (hcons v2)
    · intro b c v c' h
      cases b with
      | prim pr => exact readPrim_advBy p h
      | string => exact readString_advBy p h
      | «opaque» => exact readVariableBytes_advBy p h
      | tryFrom n => exact ihI _ _ _ _ h
    · intro fd c v c' hshape h
      cases fd with
      | one b => exact ihB _ _ _ _ h
      | fixedBytes n => exact readBytes_advBy p h
      | fixedArr n b =>
        obtain ⟨vs, c1, h1, h2⟩ := Res.bind_eq_ok h
        cases h2
        simp only [fieldShapeOk, Bool.and_eq_true, Bool.not_eq_true'] at hshape
        have := ihR n b c vs c' hshape.1 h1
        simp only [fieldConsumed, wsVal, padLen_of_mod _ this.aligned, Nat.add_zero]
        exact this
      | varBytes m => exact readVariableBytes_advBy p h
      | varString m => exact readString_advBy p h
      | varArr ty g m => exact readVariableArray_advBy p (ihI ty) h
    · intro k b c vs c' hb h
      cases k with
      | zero => cases h; exact AdvBy.refl c
      | succ k =>
        obtain ⟨v, c1, h1, h2⟩ := Res.bind_eq_ok h
        obtain ⟨vs2, c2, h3, h4⟩ := Res.bind_eq_ok h2
        cases h4
        exact (basicConsumed_eq hb p v ▸ ihB _ _ _ _ h1).trans (ihR _ _ _ _ _ hb h3)
    · intro fs sfs c vs c' hm h
      cases fs with
      | nil => cases h; exact AdvBy.refl c
      | cons fld rest =>
        cases sfs with
        | nil => simp [sizeFieldsMatch] at hm
        | cons sf srest =>
          simp only [sizeFieldsMatch, Bool.and_eq_true] at hm
          rw [evalFields_cons] at h
          obtain ⟨v, c1, h1, h2⟩ := Res.bind_eq_ok h
          obtain ⟨vs2, c2, h3, h4⟩ := Res.bind_eq_ok h2
          cases h4
          have arest := ihFs rest srest c1 vs2 c' hm.2 h3
          simp only [wsFields]
          cases fld with
          | plain nm fd =>
            obtain ⟨hshape, hcons⟩ := sizeFieldMatches_plain hm.1 p v
            exact (hcons ▸ ihF fd c v c1 hshape h1).trans arest
          | optional nm ty =>
            simp only [sizeFieldMatches, Bool.and_eq_true, Bool.not_eq_true'] at hm
            simp only [hm.1.1, hm.1.2, Bool.false_eq_true, if_false, Nat.add_zero]
            obtain ⟨m, cm, h5, ⟨rfl, rfl⟩ | ⟨w, c2, h7, rfl, rfl⟩⟩ := evalOpt_ok h1
            · exact (readU32_advsBy _ _ _ h5).trans arest
            · exact ((readU32_advsBy _ _ _ h5).trans ((ihI _ _ _ _ h7).addLog _)).trans arest

end Fx
