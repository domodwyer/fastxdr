/-
  Fx.Lemmas.Local — locality: a decoder that succeeds after consuming `pre` returns the same value and stops at the same place on
  every buffer that starts with `pre`.  Logs may differ (the reservation of `read_variable_array` looks at `remaining()`).
-/
import Fx.Lemmas.Consumed
namespace Fx

/-- same offset, ANY start log; the log `f` leaves is only said to exist -/
def Loc {α} (f : Cur → Res α) : Prop :=
  ∀ c v c', f c = .ok v c' → ∃ pre, c.data = pre ++ c'.data ∧ c'.off = c.off + pre.length ∧
    ∀ (s2 : List Byte) (l2 : List Ev), ∃ l2', f ⟨c.off, pre ++ s2, l2⟩ = .ok v ⟨c'.off, s2, l2'⟩

theorem Loc.bind {α β} {f : Cur → Res α} {g : α → Cur → Res β} (hf : Loc f) (hg : ∀ v, Loc (g v)) :
    Loc (fun c => (f c).bind g) := by
  intro c w c2 h
  obtain ⟨v, c1, h1, h2⟩ := Res.bind_eq_ok h
  obtain ⟨pre1, d1, o1, r1⟩ := hf c v c1 h1
  obtain ⟨pre2, d2, o2, r2⟩ := hg v c1 w c2 h2
  refine ⟨pre1 ++ pre2, by rw [d1, d2, List.append_assoc], by simp [o2, o1, Nat.add_assoc], ?_⟩
  intro s2 l2
  obtain ⟨l1', e1⟩ := r1 (pre2 ++ s2) l2
  obtain ⟨l2', e2⟩ := r2 s2 l1'
  refine ⟨l2', ?_⟩
  simp only [List.append_assoc, e1, Res.bind_ok]
  exact e2

theorem Loc.pure {α} (v : α) : Loc (fun c => Res.ok v c) := by
  intro c w c' h
  cases h
  exact ⟨[], by simp, by simp, fun s2 l2 => ⟨_, rfl⟩⟩

theorem Loc.logged {α} (v : α) (e : Ev) : Loc (fun c => Res.ok v (c.addLog e)) := by
  intro c w c' h
  cases h
  exact ⟨[], by simp [Cur.addLog], by simp [Cur.addLog], fun s2 l2 => ⟨_, rfl⟩⟩

theorem Loc.fail {α} {r : Cur → Res α} (h : ∀ c v c', r c ≠ .ok v c') : Loc r := by
  intro c v c' e
  exact absurd e (h c v c')

theorem Loc.err {α} (e : Err) : Loc fun c => (.err e c.log : Res α) := Loc.fail (by simp)

theorem Loc.ite {α} {f g : Cur → Res α} (b : Prop) [Decidable b] (hf : Loc f) (hg : Loc g) :
    Loc (fun c => if b then f c else g c) := closed_ite hf hg

/-- the start log is arbitrary in `Loc`, so logging the reservation first changes nothing -/
theorem Loc.vec {α} {f : Cur → Res α} (n : Nat) (hf : Loc f) : Loc fun c => f (c.addLog (.vec (min n c.remaining))) := by
  intro c v c' h
  obtain ⟨pre, d, o, r⟩ := hf _ v c' h
  exact ⟨pre, d, o, fun s2 l2 => r s2 _⟩

theorem readRaw_loc {α} (k : Nat) (g : Nat → List Byte → α) : Loc (readRaw k g) := by
  intro c w c' h
  obtain ⟨hc, hk, hv⟩ := readRaw_ok h
  subst hv hc
  have hlen : (c.data.take k).length = k := List.length_take_of_le hk
  simp only [Cur.remaining] at hk
  refine ⟨c.data.take k, by simp, by simp [hlen], fun s2 l2 => ⟨l2, ?_⟩⟩
  have e1 : (c.data.take k ++ s2).take k = c.data.take k := by
    rw [List.take_append_of_le_length (by omega), List.take_take, Nat.min_self]
  have e2 : (c.data.take k ++ s2).drop k = s2 := by
    rw [List.drop_append_of_le_length (by omega), List.drop_eq_nil_of_le (by omega), List.nil_append]
  have hk2 : ¬ (Cur.mk c.off (c.data.take k ++ s2) l2).remaining < k := by
    simp [Cur.remaining]
    omega
  simp only [readRaw, hk2, if_false, e1, Cur.advance, e2]

theorem Loc.closed : Closed @Loc := ⟨Loc.pure, Loc.err, Loc.bind, readRaw_loc⟩

theorem readers_loc : Readers @Loc := readers_closed Loc.closed

theorem readString_loc (m : Option Nat) : Loc (readString m) :=
  Loc.bind (readers_loc.vbytes m) fun _ => closed_ite (Loc.logged _ _) (Loc.fail (by simp))

/-- `hx` makes `c.stepped (ws t) _` the cursor the element decoder left (`AdvBy.stepped_eq`) -/
theorem arrLoop_loc (dec : Cur → Res Val) (ws : Val → Nat) (hd : Loc dec)
    (hx : ∀ c t ct, dec c = .ok t ct → AdvBy c ct (ws t)) :
    ∀ (k sum : Nat) (acc : Vals), Loc (fun c => arrLoop dec ws k c sum acc) := by
  intro k
  induction k with
  | zero => intro sum acc; exact Loc.pure _
  | succ k ih =>
    intro sum acc c r c3 h
    obtain ⟨t, ct, hdec, hle, h2⟩ := arrLoop_succ_ok h
    obtain ⟨pe, de, oe, re⟩ := hd c t ct hdec
    have hoff := (hx c t ct hdec).off
    have hws : pe.length = ws t := by omega
    rw [(hx c t ct hdec).stepped_eq] at h2
    obtain ⟨p2, d2, o2, r2⟩ := ih (sum + ws t) (acc.snoc t) ct r c3 h2
    rw [hoff] at o2 r2
    refine ⟨pe ++ p2, by rw [de, d2, List.append_assoc], by simp [o2, hws]; omega, fun s2 l2 => ?_⟩
    obtain ⟨l1', e1⟩ := re (p2 ++ s2) l2
    obtain ⟨l2', e2⟩ := r2 s2 l1'
    refine ⟨l2', ?_⟩
    have hrem : ¬ (Cur.mk c.off (pe ++ (p2 ++ s2)) l2).remaining < ws t := by simp [Cur.remaining]; omega
    have hadv : (Cur.mk c.off (pe ++ (p2 ++ s2)) l2).stepped (ws t) l1' = ⟨c.off + ws t, p2 ++ s2, l1'⟩ := by
      simp only [Cur.stepped, Cur.advance, ← hws, List.drop_left]
    show arrLoop dec ws (k + 1) _ sum acc = _
    rw [arrLoop_succ, List.append_assoc, e1, Res.bind_ok, if_neg hrem, hadv]
    exact e2

theorem evalOpt_loc {eI : Cur → Res Val} (h : Loc eI) : Loc (evalOpt eI) :=
  evalOpt_closed Loc.closed (Loc.logged · .box) h

theorem eval_loc (a : Ast) (p : Plans) (hp : p.SizeExact' = true) (fuel : Nat) : Evals.all @Loc a p fuel :=
  eval_closed { Loc.closed with
      oof := Loc.fail (by simp), panic := fun _ => Loc.fail (by simp), str := readString_loc, opt := evalOpt_loc,
      vec := Loc.vec } a p
    (loop := fun f ty h n => arrLoop_loc _ _ h ((eval_consumed a p hp f).impl ty) n 0 .nil) fuel

end Fx
