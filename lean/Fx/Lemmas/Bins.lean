/-
  Fx.Lemmas.Bins — the key-sorted association list that models `BTreeMap` (`bins`, `bget`, `bhas`).
-/
import Fx.Index
namespace Fx

def SortedK {α} (m : List (String × α)) : Prop := m.Pairwise (fun x y => x.1 < y.1)

/-- the fold both map indexes run (reducible: the property theorems spell it out) -/
abbrev binsAll {α} (es m : List (String × α)) : List (String × α) := es.foldl (fun m kv => bins kv.1 kv.2 m) m

section
variable {α : Type _} {k k' : String} {v : α} {m es : List (String × α)} {x : String × α}

theorem bins_cons_lt (h : k < k') (v v' : α) (t : List (String × α)) :
    bins k v ((k', v') :: t) = (k, v) :: (k', v') :: t := by
  simp only [bins, h, if_true]

theorem bins_cons_self (k : String) (v v' : α) (t : List (String × α)) : bins k v ((k, v') :: t) = (k, v) :: t := by
  simp only [bins, String.lt_irrefl, if_false, if_true]

theorem bins_cons_gt (h : k' < k) (v v' : α) (t : List (String × α)) :
    bins k v ((k', v') :: t) = (k', v') :: bins k v t := by
  have h1 : ¬ k < k' := String.lt_asymm h
  have h2 : k ≠ k' := fun e => String.lt_irrefl _ (e ▸ h)
  simp only [bins, h1, h2, if_false]

theorem bget_bins (k k' : String) (v : α) (m : List (String × α)) :
    bget k' (bins k v m) = if k' = k then some v else bget k' m := by
  fun_induction bins k v m with
  | case1 => rfl
  | case2 => rfl
  | case3 =>
    by_cases e : k' = k <;> simp only [bget, e, if_true, if_false]
  | case4 k₁ v₁ t _ h2 ih =>
    simp only [bget, ih]
    by_cases e : k' = k
    · subst e
      simp only [h2, if_true, if_false]
    · simp only [e, if_false]

theorem bget_bins_self (k : String) (v : α) (m : List (String × α)) : bget k (bins k v m) = some v := by
  rw [bget_bins, if_pos rfl]

theorem bget_bins_of_ne (h : k' ≠ k) (v : α) (m : List (String × α)) : bget k' (bins k v m) = bget k' m := by
  rw [bget_bins, if_neg h]

theorem bhas_bins (k k' : String) (v : α) (m : List (String × α)) :
    bhas k' (bins k v m) = (k' == k || bhas k' m) := by
  by_cases h : k' = k <;> simp [bhas, bget_bins, h]

theorem of_mem_bins (h : x ∈ bins k v m) : x = (k, v) ∨ x ∈ m := by
  fun_induction bins k v m with
  | case1 => exact .inl (List.mem_singleton.mp h)
  | case2 => exact List.mem_cons.mp h
  | case3 => exact (List.mem_cons.mp h).imp_right (List.mem_cons_of_mem _)
  | case4 k₁ v₁ t _ _ ih =>
    rcases List.mem_cons.mp h with h | h
    · exact .inr (h ▸ List.mem_cons_self)
    · exact (ih h).imp_right (List.mem_cons_of_mem _)

theorem sorted_bins (k : String) (v : α) (hs : SortedK m) : SortedK (bins k v m) := by
  fun_induction bins k v m with
  | case1 => exact List.pairwise_singleton _ _
  | case2 k₁ v₁ t h =>
    refine List.pairwise_cons.mpr ⟨fun x hx => ?_, hs⟩
    rcases List.mem_cons.mp hx with rfl | hx
    · exact h
    · exact String.lt_trans h (List.rel_of_pairwise_cons hs hx)
  | case3 v₁ t h => exact List.pairwise_cons.mpr (List.pairwise_cons.mp hs)
  | case4 k₁ v₁ t h1 h2 ih =>
    obtain ⟨hh, ht⟩ := List.pairwise_cons.mp hs
    refine List.pairwise_cons.mpr ⟨fun x hx => ?_, ih ht⟩
    rcases of_mem_bins hx with rfl | hx
    · exact ((Std.lt_trichotomy k k₁).resolve_left h1).resolve_left h2
    · exact hh x hx

/-- five cases: the head key relative to `k1 < k2`; no sortedness needed -/
theorem bins_comm_of_lt {k1 k2 : String} (h : k1 < k2) (v1 v2 : α) (l : List (String × α)) :
    bins k1 v1 (bins k2 v2 l) = bins k2 v2 (bins k1 v1 l) := by
  induction l with
  | nil => simp only [bins, bins_cons_lt h, bins_cons_gt h]
  | cons hd t ih =>
    obtain ⟨k', v'⟩ := hd
    rcases Std.lt_trichotomy k' k1 with h1 | rfl | h1
    · have h2 := String.lt_trans h1 h
      rw [bins_cons_gt h2, bins_cons_gt h1, bins_cons_gt h1, bins_cons_gt h2, ih]
    · rw [bins_cons_gt h, bins_cons_self, bins_cons_self, bins_cons_gt h]
    · rw [bins_cons_lt h1, bins_cons_gt h]
      rcases Std.lt_trichotomy k' k2 with h2 | rfl | h2
      · rw [bins_cons_gt h2, bins_cons_lt h1]
      · rw [bins_cons_self, bins_cons_lt h]
      · rw [bins_cons_lt h2, bins_cons_lt h]

theorem mem_of_bget (h : bget k m = some v) : (k, v) ∈ m := by
  induction m with
  | nil => cases h
  | cons y ys ih =>
    simp only [bget] at h
    split at h
    · rename_i e
      cases h
      exact e ▸ List.mem_cons_self
    · exact List.mem_cons_of_mem _ (ih h)

theorem bget_of_mem_sortedK (hs : SortedK m) (h : (k, v) ∈ m) : bget k m = some v := by
  induction m with
  | nil => cases h
  | cons y ys ih =>
    obtain ⟨hh, ht⟩ := List.pairwise_cons.mp hs
    rcases List.mem_cons.mp h with rfl | h
    · exact if_pos rfl
    · have hne : k ≠ y.1 := fun e => String.lt_irrefl _ (e ▸ hh _ h)
      exact (if_neg hne).trans (ih ht h)

theorem bget_eq_none (h : ∀ kv ∈ m, kv.1 ≠ k) : bget k m = none := by
  induction m with
  | nil => rfl
  | cons y ys ih =>
    have hne : k ≠ y.1 := fun e => h y List.mem_cons_self e.symm
    exact (if_neg hne).trans (ih fun kv hkv => h kv (List.mem_cons_of_mem _ hkv))

theorem sorted_binsAll (hs : SortedK m) : SortedK (binsAll es m) := by
  induction es generalizing m with
  | nil => exact hs
  | cons e rest ih => exact ih (sorted_bins e.1 e.2 hs)

theorem bget_binsAll_of_ne (h : ∀ e ∈ es, e.1 ≠ k) : bget k (binsAll es m) = bget k m := by
  induction es generalizing m with
  | nil => rfl
  | cons e rest ih =>
    rw [binsAll, List.foldl_cons, ← binsAll, ih fun e he => h e (List.mem_cons_of_mem _ he),
      bget_bins_of_ne (h e List.mem_cons_self).symm]

theorem of_bget_binsAll (h : bget k (binsAll es m) = some v) : (k, v) ∈ es ∨ bget k m = some v := by
  induction es generalizing m with
  | nil => exact .inr h
  | cons e rest ih =>
    rcases ih h with h | h
    · exact .inl (List.mem_cons_of_mem _ h)
    · rw [bget_bins] at h
      split at h
      · rename_i e'
        cases h
        exact .inl (e' ▸ List.mem_cons_self)
      · exact .inr h

theorem of_mem_binsAll (h : x ∈ binsAll es m) : x ∈ es ∨ x ∈ m := by
  induction es generalizing m with
  | nil => exact .inr h
  | cons e rest ih =>
    rcases ih h with h | h
    · exact .inl (List.mem_cons_of_mem _ h)
    · exact (of_mem_bins h).imp (fun (e' : x = (e.1, e.2)) => e' ▸ List.mem_cons_self) id

theorem bget_binsAll_of_mem (hd : es.Pairwise (fun x y => x.1 ≠ y.1)) (h : x ∈ es) :
    bget x.1 (binsAll es m) = some x.2 := by
  induction es generalizing m with
  | nil => cases h
  | cons e rest ih =>
    obtain ⟨hh, ht⟩ := List.pairwise_cons.mp hd
    rcases List.mem_cons.mp h with rfl | h
    · exact (bget_binsAll_of_ne fun e he => (hh e he).symm).trans (bget_bins_self _ _ _)
    · exact ih ht h

theorem binsAll_perm {l1 l2 : List (String × α)} (hp : l1.Perm l2) (hd : l1.Pairwise (fun a b => a.1 ≠ b.1))
    (m : List (String × α)) : binsAll l1 m = binsAll l2 m := by
  induction hp generalizing m with
  | nil => rfl
  | cons x _ ih => exact ih (List.pairwise_cons.mp hd).2 _
  | swap x y l =>
    have hxy : y.1 ≠ x.1 := List.rel_of_pairwise_cons hd List.mem_cons_self
    simp only [binsAll, List.foldl_cons]
    rcases Std.lt_trichotomy x.1 y.1 with h | h | h
    · rw [bins_comm_of_lt h]
    · exact absurd h.symm hxy
    · rw [bins_comm_of_lt h]
  | trans h1 _ ih1 ih2 => rw [ih1 hd, ih2 ((h1.pairwise_iff Ne.symm).mp hd)]

end

theorem constInsertAll_eq_binsAll {es m : List (String × ConstantType)}
    (hd : es.Pairwise (fun x y => x.1 ≠ y.1)) (hfresh : ∀ e ∈ es, bhas e.1 m = false) :
    constInsertAll es m = .ok (binsAll es m) := by
  induction es generalizing m with
  | nil => rfl
  | cons e rest ih =>
    obtain ⟨hh, ht⟩ := List.pairwise_cons.mp hd
    obtain ⟨h0, hr⟩ := List.forall_mem_cons.mp hfresh
    rw [constInsertAll, if_neg (by simp [h0])]
    exact ih ht fun x hx => by simp [bhas_bins, hr x hx, (hh x hx).symm]

theorem constInsertAll_ok {es m cs : List (String × ConstantType)} (h : constInsertAll es m = .ok cs) :
    cs = binsAll es m ∧ es.Pairwise (fun x y => x.1 ≠ y.1) ∧ ∀ e ∈ es, bhas e.1 m = false := by
  induction es generalizing m with
  | nil => exact ⟨(Out.ok.inj h).symm, .nil, nofun⟩
  | cons e rest ih =>
    rw [constInsertAll] at h
    split at h
    · cases h
    · rename_i hk
      obtain ⟨h1, h2, h3⟩ := ih h
      simp only [bhas_bins, Bool.or_eq_false_iff, beq_eq_false_iff_ne] at h3
      exact ⟨h1, List.pairwise_cons.mpr ⟨fun x hx => (h3 x hx).1.symm, h2⟩,
        List.forall_mem_cons.mpr ⟨by simpa using hk, fun x hx => (h3 x hx).2⟩⟩

theorem constInsertAll_ok_or_dup (es m : List (String × ConstantType)) :
    constInsertAll es m = .ok (binsAll es m) ∨ constInsertAll es m = .panicAt "constants.rs" "duplicate case keys" := by
  induction es generalizing m with
  | nil => exact .inl rfl
  | cons e rest ih =>
    rw [constInsertAll]
    split
    · exact .inr rfl
    · exact ih _

theorem List.find?_key {α κ : Type} [BEq κ] [LawfulBEq κ] (f : α → κ) : ∀ {l : List α}, (l.map f).Nodup →
    ∀ {k : κ} {v : α}, l.find? (fun x => f x == k) = some v ↔ v ∈ l ∧ f v = k
  | [], _, k, v => by simp
  | x :: xs, hn, k, v => by
    simp only [List.map_cons, List.nodup_cons] at hn
    rw [List.find?_cons]
    by_cases hx : f x = k
    · simp only [hx, beq_self_eq_true, Option.some.injEq, List.mem_cons]
      refine ⟨fun e => e ▸ ⟨Or.inl rfl, hx⟩, fun ⟨hm, hv⟩ => ?_⟩
      rcases hm with rfl | hm
      · rfl
      · exact absurd (hx ▸ hv ▸ List.mem_map_of_mem hm) hn.1
    · have : (f x == k) = false := by simpa using hx
      simp only [this, List.find?_key f hn.2, List.mem_cons]
      exact ⟨fun ⟨hm, hv⟩ => ⟨Or.inr hm, hv⟩, fun ⟨hm, hv⟩ => ⟨hm.resolve_left (fun e => hx (e ▸ hv)), hv⟩⟩

end Fx
