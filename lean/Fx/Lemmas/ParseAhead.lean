/-
  Fx.Lemmas.ParseAhead — what a text starts with: the side conditions of the parsing lemmas ("does not continue the
  identifier", "does not begin with layout", "begins with `}`").  List facts only, no parser.  Names: `X.y` from a
  hypothesis `X` (`TokStart.noLayout`, `Starts.ahead`); `x_y` shows `X` of `y` (`tokStart_ident`, `noIdent_layout`).
-/
import Fx.Lemmas.ParseSyntax
namespace Fx.Parse
open Fx.Peg

/-- `NoWsStart`, `NoLayoutStart`, `NoIdentStart` are stated without `Ahead` but unfold to one: the `Ahead` lemmas apply to them -/
def Ahead (P : Char → Prop) (r : List Char) : Prop := ∀ c, r.head? = some c → P c

theorem Ahead.nil {P : Char → Prop} : Ahead P [] := fun _ h => by simp at h

theorem Ahead.cons {P : Char → Prop} {c : Char} {cs : List Char} (h : P c) : Ahead P (c :: cs) := fun d hd => by
  simp at hd
  exact hd ▸ h

theorem Ahead.mono {P Q : Char → Prop} {r : List Char} (h : Ahead P r) (hpq : ∀ c, P c → Q c) : Ahead Q r :=
  fun c hc => hpq c (h c hc)

def NoWsStart (r : List Char) : Prop := ∀ c, r.head? = some c → isWsChar c = false

def NoLayoutStart (r : List Char) : Prop := ∀ c, r.head? = some c → isWsChar c = false ∧ c ≠ '/'

def NoIdentStart (r : List Char) : Prop := ∀ c, r.head? = some c → isIdentChar c = false

def NoDigitStart (r : List Char) : Prop := Ahead (fun c => isAsciiDigit c = false) r

theorem noIdent_nil : NoIdentStart [] := Ahead.nil

theorem NoLayoutStart.ws {r : List Char} (h : NoLayoutStart r) : NoWsStart r := Ahead.mono h fun _ h => h.1

theorem NoIdentStart.digit {r : List Char} (h : NoIdentStart r) : NoDigitStart r :=
  Ahead.mono h fun c hc => by
    cases hd : isAsciiDigit c with
    | false => rfl
    | true =>
      rw [digit_ident hd] at hc
      cases hc

def Starts (c : Char) (r : List Char) : Prop := r.head? = some c

theorem Starts.cons {c : Char} {cs : List Char} : Starts c (c :: cs) := rfl

theorem Starts.ahead {P : Char → Prop} {c : Char} {r : List Char} (h : Starts c r) (hc : P c) : Ahead P r := fun d hd => by
  have : d = c := by simpa [Starts, hd] using h
  exact this ▸ hc

theorem noWs_starts {c : Char} {r : List Char} (h1 : isWsChar c = false) (h : Starts c r) : NoWsStart r := by
  exact Starts.ahead h h1

def NotStarts (c : Char) (r : List Char) : Prop := r.head? ≠ some c

theorem Starts.notStarts {c d : Char} {r : List Char} (h : Starts d r) (hne : d ≠ c) : NotStarts c r := by
  rw [NotStarts, h]
  simpa using hne

def TokStart (T : List Char) : Prop := ∃ c cs, T = c :: cs ∧ isWsChar c = false ∧ c ≠ '/'

theorem TokStart.noLayout {T r : List Char} (h : TokStart T) : NoLayoutStart (T ++ r) := by
  obtain ⟨c, cs, rfl, h1, h2⟩ := h
  intro d hd; simp at hd; subst hd; exact ⟨h1, h2⟩

theorem TokStart.app {T U : List Char} (h : TokStart T) : TokStart (T ++ U) := by
  obtain ⟨c, cs, rfl, h1, h2⟩ := h
  exact ⟨c, cs ++ U, rfl, h1, h2⟩

/-- `c` is a literal wherever this and `symStart_cons` are used: the conditions are decided -/
theorem tokStart_cons {c : Char} {cs : List Char} (h1 : isWsChar c = false := by decide) (h2 : c ≠ '/' := by decide) :
    TokStart (c :: cs) :=
  ⟨c, cs, rfl, h1, h2⟩

theorem validIdent_head {n : List Char} (h : validIdent n = true) : ∃ c cs, n = c :: cs ∧ isIdentChar c = true := by
  obtain ⟨hne, hn, _⟩ := validIdent_iff.mp h
  cases n with
  | nil => exact absurd rfl hne
  | cons c cs => exact ⟨c, cs, rfl, allIdent_mem hn c List.mem_cons_self⟩

theorem tokStart_identChar {c : Char} {cs : List Char} (hc : isIdentChar c = true) : TokStart (c :: cs) := by
  refine ⟨c, cs, rfl, ident_not_ws hc, ?_⟩
  intro e
  subst e
  exact absurd hc (by decide)

theorem tokStart_ident {n : List Char} (h : validIdent n = true) : TokStart n := by
  obtain ⟨c, cs, rfl, hc⟩ := validIdent_head h
  exact tokStart_identChar hc

theorem notStarts_ident {n : List Char} (h : validIdent n = true) {c : Char} (hc : isIdentChar c = false) (r : List Char) :
    NotStarts c (n ++ r) := by
  obtain ⟨d, ds, rfl, hd⟩ := validIdent_head h
  intro e
  obtain rfl : d = c := by simpa using e
  rw [hd] at hc
  cases hc

def SymStart (T : List Char) : Prop := ∃ c cs, T = c :: cs ∧ isIdentChar c = false ∧ isWsChar c = false ∧ c ≠ '/'

theorem SymStart.tok {T : List Char} (h : SymStart T) : TokStart T := by
  obtain ⟨c, cs, e, _, h1, h2⟩ := h
  exact ⟨c, cs, e, h1, h2⟩

theorem symStart_cons {c : Char} {cs : List Char} (h0 : isIdentChar c = false := by decide) (h1 : isWsChar c = false := by decide)
    (h2 : c ≠ '/' := by decide) : SymStart (c :: cs) := ⟨c, cs, rfl, h0, h1, h2⟩

theorem segsText_head : ∀ (segs : List (Cmt × List Char)), segs ≠ [] → ∃ cs, segsText segs = '/' :: cs := by
  intro segs hne
  cases segs with
  | nil => exact absurd rfl hne
  | cons cw rest =>
    obtain ⟨c, w⟩ := cw
    cases c <;> simp [segsText, Cmt.text]

theorem Layout.text_head (L : Layout) (hL : L.ok = true) :
    L.text = [] ∨ ∃ c cs, L.text = c :: cs ∧ (isWsChar c = true ∨ c = '/') := by
  obtain ⟨lead, segs⟩ := L
  have hlead : allWs lead = true := (Layout.of_ok hL).lead
  cases lead with
  | nil =>
    cases segs with
    | nil => exact .inl rfl
    | cons cw rest =>
      obtain ⟨cs, h⟩ := segsText_head (cw :: rest) (by simp)
      exact .inr ⟨'/', cs, by simp [Layout.text, h], .inr rfl⟩
  | cons c cs =>
    exact .inr ⟨c, cs ++ segsText segs, by simp [Layout.text], .inl (allWs_mem hlead c (by simp))⟩

theorem ahead_layout {P : Char → Prop} {L : Layout} (hL : L.ok = true) {r : List Char} (hw : ∀ c, isWsChar c = true → P c)
    (hs : P '/') (hr : L.text = [] → Ahead P r) : Ahead P (L.text ++ r) := by
  rcases L.text_head hL with h | ⟨c, cs, h, hc⟩
  · rw [h]
    exact hr h
  · rw [h]
    exact .cons (hc.elim (hw c) (· ▸ hs))

/-- such a layout is empty or starts with a comment -/
theorem noWs_layout {L : Layout} (hlead : L.lead = []) {r : List Char} (hr : NoWsStart r) : NoWsStart (L.text ++ r) := by
  obtain ⟨lead, segs⟩ := L
  simp only at hlead
  subst hlead
  cases segs with
  | nil => simpa [Layout.text, segsText] using hr
  | cons cw rest =>
    obtain ⟨cs, h⟩ := segsText_head (cw :: rest) (by simp)
    simp only [Layout.text, List.nil_append, h, List.cons_append]
    intro d hd; simp at hd; subst hd; decide

theorem noIdent_layout {L : Layout} (hL : L.ok = true) {r : List Char} (hr : NoIdentStart r) : NoIdentStart (L.text ++ r) :=
  ahead_layout hL (fun _ => ws_not_ident) (by decide) fun _ => hr

theorem noIdent_layout_ne {L : Layout} (hL : L.ok = true) (hne : L.text ≠ []) {r : List Char} : NoIdentStart (L.text ++ r) :=
  ahead_layout hL (fun _ => ws_not_ident) (by decide) fun h => absurd h hne

end Fx.Parse
