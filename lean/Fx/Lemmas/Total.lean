/-
  Fx.Lemmas.Total — the TOTAL memory a decode requests.  Every event is paid for by input bytes, but each nesting level may charge
  the same bytes again: the total is at most depth × bytes consumed (success) or present (failure), the depth being what the
  recursion budget measures.  For types recursive through a counted array it grows with the input: quadratic (finding K11).
-/
import Fx.Lemmas.Eats
import Fx.Lemmas.LogBound
import Fx.Lemmas.Consumed
namespace Fx

def wt (l : List Ev) : Nat := (l.map Ev.weight).sum

@[simp] theorem wt_nil : wt [] = 0 := rfl
@[simp] theorem wt_append (a b : List Ev) : wt (a ++ b) = wt a + wt b := by simp [wt]
@[simp] theorem wt_singleton (e : Ev) : wt [e] = e.weight := by simp [wt]

/-- new events are paid at `B` per byte consumed (success) or present (error): weight of the new log + `B` × bytes left does not
    grow -/
def TotB {α} (B : Nat) (c : Cur) (r : Res α) : Prop :=
  match r with
  | .ok _ c' => c'.remaining ≤ c.remaining ∧ ∃ new, c'.log = c.log ++ new ∧ wt new + B * c'.remaining ≤ B * c.remaining
  | .err _ l => ∃ new, l = c.log ++ new ∧ wt new ≤ B * c.remaining
  | _ => True

theorem TotB.ok_iff {α} {B : Nat} {c c' : Cur} {v : α} : TotB B c (.ok v c') ↔
    c'.remaining ≤ c.remaining ∧ ∃ new, c'.log = c.log ++ new ∧ wt new + B * c'.remaining ≤ B * c.remaining := Iff.rfl

theorem TotB.log_le {α} {B : Nat} {c : Cur} {r : Res α} (h : TotB B c r) {l' : List Ev} (hl : r.log? = some l') :
    ∃ new, l' = c.log ++ new ∧ wt new ≤ B * c.remaining := by
  cases r with
  | ok v c' =>
    obtain ⟨hle, new, hlog, hw⟩ := h
    cases hl
    exact ⟨new, hlog, Nat.le_trans (Nat.le_add_right _ _) hw⟩
  | err e l =>
    cases hl
    exact h
  | _ => cases hl

theorem TotB.mono {α} {B B' : Nat} {c : Cur} {r : Res α} (h : TotB B c r) (hB : B ≤ B') : TotB B' c r := by
  obtain ⟨d, rfl⟩ := Nat.exists_eq_add_of_le hB
  cases r with
  | ok v c' =>
    obtain ⟨h1, new, h2, h3⟩ := h
    have := Nat.mul_le_mul_left d h1
    refine ⟨h1, new, h2, ?_⟩
    rw [Nat.add_mul, Nat.add_mul]
    omega
  | err e l =>
    obtain ⟨new, h2, h3⟩ := h
    refine ⟨new, h2, ?_⟩
    rw [Nat.add_mul]
    omega
  | _ => trivial

theorem TotB.step {α} {B : Nat} {c c1 : Cur} {n1 : List Ev} {r : Res α} (hr : c1.remaining ≤ c.remaining)
    (hl : c1.log = c.log ++ n1) (hw : wt n1 + B * c1.remaining ≤ B * c.remaining) (h : TotB B c1 r) : TotB B c r := by
  cases r with
  | ok w c2 =>
    obtain ⟨hr2, n2, hl2, hw2⟩ := h
    refine ⟨Nat.le_trans hr2 hr, n1 ++ n2, by rw [hl2, hl, List.append_assoc], ?_⟩
    rw [wt_append]
    omega
  | err e l =>
    obtain ⟨n2, hl2, hw2⟩ := h
    refine ⟨n1 ++ n2, by rw [hl2, hl, List.append_assoc], ?_⟩
    rw [wt_append]
    omega
  | _ => trivial

theorem TotB.bind {α β} {B : Nat} {c : Cur} {r : Res α} {k : α → Cur → Res β} (h1 : TotB B c r)
    (h2 : ∀ v c1, r = .ok v c1 → TotB B c1 (k v c1)) : TotB B c (r.bind k) := by
  cases r with
  | ok v c1 =>
    obtain ⟨hr, n1, hl, hw⟩ := h1
    exact TotB.step hr hl hw (h2 v c1 rfl)
  | err e l => exact h1
  | _ => trivial

theorem TotB.pure {α} {B : Nat} {c : Cur} {v : α} : TotB B c (Res.ok v c) :=
  ⟨Nat.le_refl _, [], by simp, by simp⟩

theorem TotB.err {α} {B : Nat} {c : Cur} {e : Err} : TotB B c (Res.err e c.log : Res α) :=
  ⟨[], by simp, by simp⟩

/-- the readers that log nothing -/
def TotB.Free {α} (g : Cur → Res α) : Prop := ∀ B c, TotB B c (g c)

theorem readers_totB : Readers @TotB.Free :=
  readers_closed {
    pure := fun _ _ _ => TotB.pure
    err := fun _ _ _ => TotB.err
    bind := fun hf hg B c => TotB.bind (hf B c) fun v c1 _ => hg v B c1
    raw := fun k g B c => by
      unfold readRaw
      split
      · exact TotB.err
      · have h := Cur.advance_remaining c k ▸ Nat.sub_le c.remaining k
        exact ⟨h, [], by simp, by simpa using Nat.mul_le_mul_left B h⟩ }

/-- a string copies its payload once: one event, paid by the bytes of the string -/
theorem readString_totB (m : Option Nat) (c : Cur) : TotB 1 c (readString m c) := by
  unfold readString
  cases hr : readVariableBytes m c with
  | ok b c1 =>
    have hlen : c1.log = c.log ∧ (payloadOf b).length + c1.remaining ≤ c.remaining := by
      obtain ⟨n, rfl, hn, _, _, rfl⟩ := readVariableBytes_ok hr
      refine ⟨rfl, ?_⟩
      simp only [payloadOf, List.length_take, List.length_drop, Cur.advance_data, Cur.remaining] at hn ⊢
      omega
    simp only [Res.bind_ok]
    split
    · refine ⟨Nat.le_trans (Nat.le_add_left _ _) hlen.2, [.str (payloadOf b).length], by simp [Cur.addLog, hlen.1], ?_⟩
      simpa [Ev.weight, Cur.addLog, Cur.remaining] using hlen.2
    · refine ⟨[.str (payloadOf b).length], by simp [Cur.addLog, hlen.1], ?_⟩
      simp only [wt_singleton, Ev.weight]
      omega
  | err e l =>
    have h := readers_totB.vbytes m 1 c
    rw [hr] at h
    exact h
  | _ => trivial

theorem arrLoop_count (dec : Cur → Res Val) (ws : Val → Nat) (h4 : ∀ c t ct, dec c = .ok t ct → 4 ≤ ws t) :
    ∀ (k : Nat) (c : Cur) (sum : Nat) (acc : Vals) (r : Vals × Nat) (c3 : Cur),
      arrLoop dec ws k c sum acc = .ok r c3 → 4 * k + c3.remaining ≤ c.remaining := by
  intro k
  induction k with
  | zero =>
    intro c sum acc r c3 h
    cases h
    omega
  | succ k ih =>
    intro c sum acc r c3 h
    obtain ⟨t, ct, hdec, hle, h2⟩ := arrLoop_succ_ok h
    have := ih _ _ _ _ _ h2
    have := h4 c t ct hdec
    simp only [Cur.stepped_remaining] at *
    omega

/-- `hx` makes `c.stepped (ws t) _` the cursor the element decoder left -/
theorem arrLoop_totB (dec : Cur → Res Val) (ws : Val → Nat) (B : Nat) (hT : ∀ c, TotB B c (dec c))
    (hx : ∀ c t ct, dec c = .ok t ct → AdvBy c ct (ws t)) :
    ∀ (k : Nat) (c : Cur) (sum : Nat) (acc : Vals), TotB B c (arrLoop dec ws k c sum acc) := by
  intro k
  induction k with
  | zero =>
    intro c sum acc
    exact TotB.pure
  | succ k ih =>
    intro c sum acc
    rw [arrLoop_succ]
    refine TotB.bind (hT c) fun t ct hdec => ?_
    split
    · exact TotB.err
    · rw [(hx c t ct hdec).stepped_eq]
      exact ih _ _ _

theorem readVariableArray_totB {dec : Cur → Res Val} {ws : Val → Nat} {B : Nat} (m : Option Nat)
    (hT : ∀ c, TotB B c (dec c))
    (hx : ∀ c t ct, dec c = .ok t ct → AdvBy c ct (ws t)) (he : Eats dec) (c : Cur) :
    TotB (B + 1) c (readVariableArray dec ws m c) := by
  unfold readVariableArray
  refine TotB.bind (readers_totB.u32 _ c) (fun n c1 _ => ?_)
  split
  · exact TotB.err
  · dsimp only
    generalize hc2 : c1.addLog (.vec (min n c1.remaining)) = c2
    have hrem : c2.remaining = c1.remaining := by
      rw [← hc2]
      rfl
    have hlog : c2.log = c1.log ++ [.vec (min n c1.remaining)] := by
      rw [← hc2]
      rfl
    have hloop := arrLoop_totB dec ws B hT hx n c2 0 .nil
    have h4 : ∀ c t ct, dec c = .ok t ct → 4 ≤ ws t := fun c t ct h => by
      have := (hx c t ct h).remaining
      have := (hx c t ct h).le
      have := he c t ct h
      omega
    have hmin := Nat.min_le_right n c1.remaining
    have hminl := Nat.min_le_left n c1.remaining
    cases hl2 : arrLoop dec ws n c2 0 .nil with
    | ok r c3 =>
      -- the idea: the loop ran `n` times and each pass ate a word, so `4 * n ≤ bytes consumed`: the reservation `min n …` is
      -- paid by raising the rate on those bytes from `B` to `B + 1`
      have hk := arrLoop_count dec ws h4 n c2 0 .nil r c3 hl2
      rw [hl2] at hloop
      obtain ⟨hr3, n2, hlg, hw2⟩ := hloop
      rw [hlog, List.append_assoc] at hlg
      rw [hrem] at hr3 hw2 hk
      simp only [Res.bind_ok]
      split
      · -- the trailing padding is missing
        refine ⟨_, hlg, ?_⟩
        simp only [wt_append, wt_singleton, Ev.weight, Nat.add_mul]
        omega
      · have h7 := Nat.mul_le_mul_left B (Nat.sub_le c3.remaining (padLen r.2))
        simp only [advanceP, if_neg ‹_›, Res.bind_ok]
        refine ⟨?_, _, hlg, ?_⟩
        · simp only [Cur.advance_remaining]
          omega
        · simp only [wt_append, wt_singleton, Ev.weight, Nat.add_mul, Cur.advance_remaining]
          omega
    | err e l =>
      rw [hl2] at hloop
      obtain ⟨n2, hlg, hw2⟩ := hloop
      rw [hlog, List.append_assoc] at hlg
      rw [hrem] at hw2
      refine ⟨_, hlg, ?_⟩
      -- on failure the reservation is `≤ bytes present` (`hmin`): one more unit of rate on all of them
      simp only [wt_append, wt_singleton, Ev.weight, Nat.add_mul]
      omega
    | _ => trivial

/-- the `Box` is paid by the four bytes of the marker -/
theorem evalOpt_totB {eI : Cur → Res Val} {B : Nat} (hI : ∀ c, TotB B c (eI c)) (c : Cur) :
    TotB (B + 1) c (evalOpt eI c) := by
  unfold evalOpt
  cases hr : readU32 c with
  | ok m c1 =>
    have hlog : c1.log = c.log := (readU32_ok hr).1 ▸ rfl
    have h4 := readU32_eats _ _ _ hr
    have hmul := Nat.mul_le_mul_left B (show c1.remaining ≤ c.remaining by omega)
    simp only [Res.bind_ok]
    split
    · refine ⟨by omega, [], by simp [hlog], ?_⟩
      simp only [wt_nil, Nat.add_mul]
      omega
    · split
      · have hi := hI c1
        cases hev : eI c1 with
        | ok v c2 =>
          rw [hev] at hi
          obtain ⟨hr2, new, hl2, hw⟩ := hi
          have hbox : (c2.addLog .box).remaining = c2.remaining := rfl
          refine ⟨by omega, new ++ [.box], by simp [Cur.addLog, hl2, hlog], ?_⟩
          simp only [wt_append, wt_singleton, Ev.weight, Nat.add_mul, hbox]
          omega
        | err e l =>
          rw [hev] at hi
          obtain ⟨new, hl2, hw⟩ := hi
          refine ⟨new, by rw [hl2, hlog], ?_⟩
          rw [Nat.add_mul]
          omega
        | _ => trivial
      · exact ⟨[], by simp [hlog], by simp⟩
  | err e l =>
    have h := readers_totB.u32 (B + 1) c
    rw [hr] at h
    exact h
  | _ => trivial

def FieldDec.elemsOk (p : Plans) (fd : FieldDec) : Prop := ∀ ty ∈ fd.elemTypes, p.sure (p.impls.length + 1) ty = true

def StructFieldDec.elemsOk (p : Plans) : StructFieldDec → Prop
  | .plain _ fd => fd.elemsOk p
  | .optional _ _ => True

/-- the rate `B` is the recursion budget itself: each nesting level may charge every byte once more; the counted array and the
    optional link add an event of their own (`B` to `B + 1`) -/
theorem eval_total (a : Ast) (p : Plans) (hp : p.SizeExact' = true) (hs : p.elemsSure = true) (f : Nat) :
    Evals (fun n => ∀ c, TotB f c (evalImpl a p f n c)) (fun b => ∀ c, TotB f c (evalBasic a p f b c))
      (fun fd => ∀ c, fd.elemsOk p → TotB f c (evalField a p f fd c)) (fun k b => ∀ c, TotB f c (evalRepeat a p f k b c))
      (fun fs => ∀ c, (∀ fld ∈ fs, fld.elemsOk p) → TotB f c (evalFields a p f fs c)) := by
  induction f with
  | zero => exact ⟨fun _ _ => trivial, fun _ _ => trivial, fun _ _ _ => trivial, fun _ _ _ => trivial, fun _ _ _ => trivial⟩
  | succ f ih =>
    obtain ⟨ihI, ihB, ihF, ihR, ihFs⟩ := ih
    have up : ∀ {α} {c : Cur} {r : Res α}, TotB f c r → TotB (f + 1) c r := fun h => h.mono (Nat.le_succ _)
    have hcons := (eval_consumed a p hp f).impl
    refine ⟨?_, ?_, ?_, ?_, ?_⟩
    · intro n c
      cases hfi : p.findImpl n with
      | none =>
        rw [evalImpl_none hfi]
        trivial
      | some i =>
        have hmem := (Plans.findImpl_some hfi).1
        have helems : ∀ ty ∈ i.body.elemTypes, p.sure (p.impls.length + 1) ty = true := by
          simp only [Plans.elemsSure, List.all_eq_true] at hs
          exact hs i hmem
        cases hb : i.body with
        | struct fs =>
          rw [evalImpl_struct hfi hb]
          refine TotB.bind (up (ihFs fs c ?_)) (fun vs c1 _ => TotB.pure)
          intro fld hfld
          cases fld with
          | plain nm fd =>
            intro ty hty
            exact helems ty (by rw [hb]; simp only [ImplBody.elemTypes, List.mem_flatMap]; exact ⟨_, hfld, hty⟩)
          | optional nm ty => trivial
        | union u =>
          rw [evalImpl_union hfi hb]
          refine TotB.bind (up (ihB u.disc c)) (fun d c1 _ => ?_)
          unfold evalArms
          cases hsel : selectArm a d u.arms with
          | some arm =>
            dsimp only
            cases hpl : arm.payload with
            | some fd =>
              refine TotB.bind (up (ihF fd c1 ?_)) (fun v c2 _ => TotB.pure)
              intro ty hty
              have harm : arm ∈ u.arms := selectArm_mem hsel
              refine helems ty ?_
              rw [hb]; simp only [ImplBody.elemTypes, List.mem_append, List.mem_flatMap]
              exact Or.inl ⟨arm, harm, by simp [hpl, hty]⟩
            | none => exact TotB.pure
          | none =>
            dsimp only
            cases ht : u.tail with
            | defaultData fd =>
              refine TotB.bind (up (ihF fd c1 ?_)) (fun v c2 _ => TotB.pure)
              intro ty hty
              refine helems ty ?_
              rw [hb]; simp only [ImplBody.elemTypes, List.mem_append]
              exact Or.inr (by simp [ht, hty])
            | errUnknown => exact TotB.err
            | none => trivial
        | enum arms =>
          rw [evalImpl_enum hfi hb]
          refine TotB.bind (readers_totB.i32 _ c) (fun x c1 _ => ?_)
          split
          · exact TotB.pure
          · exact TotB.err
        | typedef fd =>
          rw [evalImpl_typedef hfi hb]
          refine TotB.bind (up (ihF fd c ?_)) (fun v c1 _ => TotB.pure)
          intro ty hty
          exact helems ty (by rw [hb]; exact hty)
    · intro b c
      cases b with
      | prim pr => exact readers_totB.prim pr _ c
      | string => exact (readString_totB none c).mono (by omega)
      | «opaque» => exact readers_totB.vbytes none _ c
      | tryFrom n => exact up (ihI n c)
    · intro fd c hfd
      cases fd with
      | one b => exact up (ihB b c)
      | fixedBytes n => exact readers_totB.bytes n _ c
      | fixedArr k b =>
        exact TotB.bind (up (ihR k b c)) (fun vs c1 _ => TotB.pure)
      | varBytes m => exact readers_totB.vbytes m _ c
      | varString m => exact (readString_totB m c).mono (by omega)
      | varArr ty g m =>
        have hsure : p.sure (p.impls.length + 1) ty = true := hfd ty (by simp [FieldDec.elemTypes])
        exact readVariableArray_totB m (ihI ty) (hcons ty) (sure_eats a p _ ty hsure f) c
    · intro k b c
      cases k with
      | zero => exact TotB.pure
      | succ k =>
        exact TotB.bind (up (ihB b c)) (fun v c1 _ => TotB.bind (up (ihR k b c1)) (fun vs c2 _ => TotB.pure))
    · intro fs c hfs
      cases fs with
      | nil => exact TotB.pure
      | cons fld rest =>
        have hrest : ∀ x ∈ rest, x.elemsOk p := fun x hx => hfs x (List.mem_cons_of_mem _ hx)
        refine TotB.bind ?_ (fun v c1 _ => TotB.bind (up (ihFs rest c1 hrest)) (fun vs c2 _ => TotB.pure))
        cases fld with
        | plain nm fd => exact up (ihF fd c (hfs _ List.mem_cons_self))
        | optional nm ty => exact evalOpt_totB (ihI ty) c

end Fx
