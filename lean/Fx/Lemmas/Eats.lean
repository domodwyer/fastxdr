/-
  Fx.Lemmas.Eats — a decoder that `Plans.sure` accepts consumes at least one word whenever it succeeds (`sure_eats`): what bounds
  the count of a counted array by the bytes present.
-/
import Fx.Finite
import Fx.Lemmas.Advance
namespace Fx

def Eats {α} (g : Cur → Res α) : Prop := ∀ c v c', g c = .ok v c' → c'.remaining + 4 ≤ c.remaining

theorem Eats.bind_left {α β} {f : Cur → Res α} {g : α → Cur → Res β} (hf : Eats f) (hg : ∀ v, Advs (g v)) :
    Eats fun c => (f c).bind g := fun c w c2 h => by
  obtain ⟨v, c1, h1, h2⟩ := Res.bind_eq_ok h
  exact Nat.le_trans (Nat.add_le_add_right (hg v _ _ _ h2).remaining_le 4) (hf _ _ _ h1)

theorem Eats.bind_right {α β} {f : Cur → Res α} {g : α → Cur → Res β} (hf : Advs f) (hg : ∀ v, Eats (g v)) :
    Eats fun c => (f c).bind g := fun c w c2 h => by
  obtain ⟨v, c1, h1, h2⟩ := Res.bind_eq_ok h
  exact Nat.le_trans (hg v _ _ _ h2) (hf _ _ _ h1).remaining_le

theorem Eats.map {α β} {f : Cur → Res α} {g : α → β} (hf : Eats f) : Eats fun c => (f c).map g :=
  hf.bind_left fun v => Advs.pure (g v)

theorem readRaw_eats {α} {k : Nat} (hk : 4 ≤ k) {g : Nat → List Byte → α} : Eats (readRaw k g) := fun c v c' h => by
  obtain ⟨rfl, l, _⟩ := readRaw_ok h
  simp only [Cur.advance_remaining]
  omega

theorem readU32_eats : Eats readU32 := funext readU32_eq ▸ readRaw_eats (Nat.le_refl 4)

theorem readU64_eats : Eats readU64 := funext readU64_eq ▸ readRaw_eats (by decide)

theorem readPrim_eats (pr : Prim) : Eats (readPrim pr) := by
  cases pr
  · exact readU32_eats.map
  · exact readU64_eats.map
  · exact (readU32_eats.map).map
  · exact (readU64_eats.map).map
  · exact readU32_eats.map
  · exact readU64_eats.map
  · exact Eats.map (Eats.bind_left (readU32_eats.map) fun i =>
      closed_ite (Advs.pure _) (closed_ite (Advs.pure _) (Advs.fail (by simp))))

theorem readVariableBytes_eats (m : Option Nat) : Eats (readVariableBytes m) :=
  readU32_eats.bind_left fun n => closed_ite (Advs.fail (by simp)) (readers_adv.bytes n)

theorem readString_eats (m : Option Nat) : Eats (readString m) :=
  (readVariableBytes_eats m).bind_left fun _ => closed_ite (Advs.logged _ _) (Advs.fail (by simp))

theorem evalOpt_eats {eI : Cur → Res Val} (h : Advs eI) : Eats (evalOpt eI) :=
  readU32_eats.bind_left fun m =>
    closed_ite (Advs.pure _) (closed_ite (Advs.bind h fun _ => Advs.logged _ _) (Advs.fail (by simp)))

section sure
variable {a : Ast} {p : Plans} {rec : String → Bool} (hrec : ∀ m, rec m = true → ∀ f, Eats (evalImpl a p f m))
include hrec

theorem basic_eats {b : BasicDec} (hb : b.sureWith rec = true) : ∀ f, Eats (evalBasic a p f b)
  | 0 => fun _ _ _ h => by cases h
  | f + 1 => by
    cases b with
    | prim pr => exact readPrim_eats pr
    | string => exact readString_eats none
    | «opaque» => exact readVariableBytes_eats none
    | tryFrom n => exact hrec n hb f

theorem field_eats {fd : FieldDec} (hfd : fd.sureWith rec = true) : ∀ f, Eats (evalField a p f fd)
  | 0 => fun _ _ _ h => by cases h
  | f + 1 => by
    cases fd with
    | one b => exact basic_eats hrec hfd f
    | fixedBytes n =>
      -- a payload of at least one byte occupies, with its padding, at least one word
      have h4 : 4 ≤ n + padLen n := by
        have := padLen_mod n
        have : 0 < n := by simpa [FieldDec.sureWith] using hfd
        omega
      have : Eats (readBytes n) := funext (readBytes_eq n) ▸ readRaw_eats h4
      exact this
    | fixedArr k b =>
      simp only [FieldDec.sureWith, Bool.and_eq_true, decide_eq_true_eq] at hfd
      obtain ⟨k, rfl⟩ : ∃ k', k = k' + 1 := ⟨k - 1, by omega⟩
      refine Eats.bind_left (f := evalRepeat a p f (k + 1) b) ?_ (fun vs => Advs.pure (Val.arr vs))
      cases f with
      | zero => exact fun _ _ _ h => by cases h
      | succ f =>
        -- the first element consumes, the others do not give back
        exact (basic_eats hrec hfd.2 f).bind_left fun v =>
          Advs.bind ((eval_adv a p f).rep k b) fun _ => Advs.pure _
    | varBytes m => exact readVariableBytes_eats m
    | varString m => exact readString_eats m
    | varArr ty g m =>
      -- the count word; neither the loop nor the padding skip gives back
      intro c v c' h
      obtain ⟨n, c1, out, sum, c3, h1, _, h3, rfl, _, _⟩ := readVariableArray_ok h
      have e4 := readU32_eats _ _ _ h1
      have a3 : c3.remaining ≤ c1.remaining := (arrLoop_adv _ _ _ _ _ _ _ _ h3).remaining_le
      simp only [Cur.advance_remaining]
      omega

theorem fields_eats : ∀ (fs : List StructFieldDec), fs.any (·.sureWith rec) = true → ∀ f, Eats (evalFields a p f fs)
  | [], h, _ => by simp at h
  | _, _, 0 => fun _ _ _ h => by cases h
  | fld :: rest, hany, f + 1 => by
    have advRest : ∀ v : Val, Advs fun c => (evalFields a p f rest c).bind fun vs c'' => Res.ok (Vals.cons v vs) c'' :=
      fun v => Advs.bind ((eval_adv a p f).fields rest) fun _ => Advs.pure _
    simp only [List.any_cons, Bool.or_eq_true] at hany
    cases fld with
    | plain nm fd =>
      rcases hany with hfst | hrest
      · exact (field_eats hrec hfst f).bind_left advRest
      · exact Eats.bind_right ((eval_adv a p f).field fd)
          fun v => (fields_eats rest hrest f).bind_left fun _ => Advs.pure _
    | optional nm ty =>
      rw [funext (evalFields_cons a p f (.optional nm ty) rest)]
      exact (evalOpt_eats ((eval_adv a p f).impl ty)).bind_left advRest

theorem body_eats {n : String} {i : Impl} (hfi : p.findImpl n = some i) (hb : i.body.sureWith rec = true) :
    ∀ f, Eats (evalImpl a p f n)
  | 0 => fun _ _ _ h => by cases h
  | f + 1 => by
    have advF := (eval_adv a p f).field
    cases hbody : i.body with
    | struct fs =>
      rw [hbody] at hb
      rw [funext (evalImpl_struct hfi hbody f)]
      exact (fields_eats hrec fs hb f).bind_left fun _ => Advs.pure _
    | union u =>
      rw [hbody] at hb
      rw [funext (evalImpl_union hfi hbody f)]
      -- the discriminant consumes; whichever arm is taken does not give back
      refine (basic_eats hrec hb f).bind_left fun d => ?_
      unfold evalArms
      cases selectArm a d u.arms with
      | some arm =>
        dsimp only
        cases arm.payload with
        | some fd => exact Advs.bind (advF fd) fun _ => Advs.pure _
        | none => exact Advs.pure _
      | none =>
        dsimp only
        cases u.tail with
        | defaultData fd => exact Advs.bind (advF fd) fun _ => Advs.pure _
        | errUnknown => exact Advs.fail (by simp)
        | none => exact Advs.fail (by simp)
    | enum arms =>
      rw [funext (evalImpl_enum hfi hbody f)]
      refine (readU32_eats.map).bind_left fun x => ?_
      cases selectEnum a (.i32 x) arms with
      | some m => exact Advs.pure _
      | none => exact Advs.fail (by simp)
    | typedef fd =>
      rw [hbody] at hb
      rw [funext (evalImpl_typedef hfi hbody f)]
      exact (field_eats hrec hb f).bind_left fun _ => Advs.pure _

end sure

theorem sure_eats (a : Ast) (p : Plans) : ∀ (g : Nat) (n : String), p.sure g n = true → ∀ f, Eats (evalImpl a p f n)
  | 0, n, h => by simp [Plans.sure] at h
  | g + 1, n, h => by
    simp only [Plans.sure] at h
    cases hfi : p.findImpl n with
    | none => simp [hfi] at h
    | some i => exact body_eats (sure_eats a p g) hfi (by simpa [hfi] using h)

end Fx
