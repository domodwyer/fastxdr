/-
  Fx.Lemmas.ParseLayout — what the implicit skip of the grammar regenerated from `src/xdr.pest` consumes:
  any run of blanks, tabs and line ends, followed by any number of comments each followed by such a run.
-/
import Fx.Lemmas.ParseRules
import Fx.Lemmas.ParseAhead
namespace Fx.Parse
open Fx.Peg

-- runs: one induction for every "repetition over characters of a class"

/-- one iteration on a non-empty run `n` with `Q n` takes a non-empty piece and leaves a run with `Q` -/
def Steps (Step : St → St → Prop) (Q : List Char → Prop) (r : List Char) : Prop :=
  ∀ n, Q n → n ≠ [] → ∃ n1 n2, n = n1 ++ n2 ∧ n1 ≠ [] ∧ Q n2 ∧ ∀ p, Step ⟨p, n ++ r⟩ ⟨p + n1.length, n2 ++ r⟩

/-- `R` (a loop) stops in front of `r` and is closed under a progressing step: it eats the whole run -/
theorem run_of_steps {Step R : St → St → Prop} {Q : List Char → Prop} {r : List Char} (stop : ∀ p, R ⟨p, r⟩ ⟨p, r⟩)
    (step : ∀ {s s1 s'}, Step s s1 → s1.pos ≠ s.pos → R s1 s' → R s s') (hs : Steps Step Q r) :
    ∀ {n : List Char}, Q n → ∀ p, R ⟨p, n ++ r⟩ ⟨p + n.length, r⟩ := by
  suffices ∀ (k : Nat) (n : List Char), n.length ≤ k → Q n → ∀ p, R ⟨p, n ++ r⟩ ⟨p + n.length, r⟩ from
    fun {n} hq p => this _ n (Nat.le_refl _) hq p
  intro k
  induction k with
  | zero =>
    intro n hl _ p
    obtain rfl : n = [] := List.eq_nil_of_length_eq_zero (by omega)
    exact stop p
  | succ k ih =>
    intro n hl hq p
    by_cases hn : n = []
    · subst hn
      exact stop p
    · obtain ⟨n1, n2, rfl, hne, hq2, h1⟩ := hs n hq hn
      have : 0 < n1.length := List.length_pos_iff.mpr hne
      rw [List.length_append, ← Nat.add_assoc]
      exact step (h1 p) (by simp only; omega) (ih n2 (by simp at hl; omega) hq2 _)

theorem star_run {e : Expr} {Q : List Char → Prop} {r : List Char} (hstop : ∀ p, EFail X true e ⟨p, r⟩)
    (hs : Steps (fun s s1 => EOk X true e s s1 []) Q r) {n : List Char} (hq : Q n) (p : Nat) :
    EOk X true (.star e) ⟨p, n ++ r⟩ ⟨p + n.length, r⟩ [] := by
  by_cases hn : n = []
  · subst hn
    exact EOk.star_nil (hstop p)
  · obtain ⟨n1, n2, rfl, _, hq2, h1⟩ := hs n hq hn
    rw [List.length_append, ← Nat.add_assoc]
    exact EOk.star_cons (h1 p) (run_of_steps (R := fun s s' => RepOk X true e s [] s' []) (fun p => RepOk.stopA (hstop p))
      (fun h hp hr => RepOk.stepA h hp hr) hs hq2 _)

theorem plus_run {e : Expr} {Q : List Char → Prop} {r : List Char} (hstop : ∀ p, EFail X true e ⟨p, r⟩)
    (hs : Steps (fun s s1 => EOk X true e s s1 []) Q r) {n : List Char} (hq : Q n) (hn : n ≠ []) (p : Nat) :
    EOk X true (.plus e) ⟨p, n ++ r⟩ ⟨p + n.length, r⟩ [] := by
  obtain ⟨n1, n2, rfl, _, hq2, h1⟩ := hs n hq hn
  rw [List.length_append, ← Nat.add_assoc]
  exact EOk.plus (EOk.seqA (h1 p) (star_run hstop hs hq2 _))

theorem char_steps {Step : St → St → Prop} {Q : List Char → Prop} {r : List Char}
    (h : ∀ c cs, Q (c :: cs) → Q cs ∧ ∀ p, Step ⟨p, c :: (cs ++ r)⟩ ⟨p + 1, cs ++ r⟩) : Steps Step Q r := by
  intro n hq hn
  cases n with
  | nil => exact absurd rfl hn
  | cons c cs => exact ⟨[c], cs, rfl, by simp, (h c cs hq).1, (h c cs hq).2⟩

theorem ws_fail {a : Bool} {p : Nat} {r : List Char} (h : NoWsStart r) : RFail X a "WHITESPACE" ⟨p, r⟩ := by
  refine has_WHITESPACE.fail ?_
  have hd : ∀ c, isWsChar c = true → r.head? ≠ some c := fun c hc e => by rw [h c e] at hc; cases hc
  refine EFail.alt (EFail.str (matchStr_head_ne (hd _ rfl))) (EFail.alt (EFail.str (matchStr_head_ne (hd _ rfl))) ?_)
  cases r with
  | nil => exact EFail.newline_nil
  | cons c cs => exact EFail.newline (fun e => hd '\n' rfl (by simp [e])) (fun e => hd '\r' rfl (by simp [e]))

/-- one step of `WHITESPACE` takes one character, or two for `\r\n` -/
theorem ws_steps {a : Bool} {r : List Char} (hr : NoWsStart r) :
    Steps (fun s s1 => ROk X a "WHITESPACE" s s1 []) (fun n => ∀ c ∈ n, isWsChar c = true) r := by
  intro n hn hne
  cases n with
  | nil => exact absurd rfl hne
  | cons c cs =>
    have hcs : ∀ d ∈ cs, isWsChar d = true := fun d hd => hn d (by simp [hd])
    have viaNewline : ∀ p, EFail X true (.str [' ']) ⟨p, c :: (cs ++ r)⟩ → EFail X true (.str ['\t']) ⟨p, c :: (cs ++ r)⟩ →
        ∀ {s'}, EOk X true .newline ⟨p, c :: (cs ++ r)⟩ s' [] → ROk X a "WHITESPACE" ⟨p, c :: (cs ++ r)⟩ s' [] :=
      fun p h1 h2 _ h3 => has_WHITESPACE.ok (EOk.alt2 h1 (EOk.alt2 h2 h3))
    rcases ws_cases (hn c (by simp)) with rfl | rfl | rfl | rfl
    · exact ⟨[' '], cs, rfl, by simp, hcs, fun p => has_WHITESPACE.ok (EOk.alt1 (EOk.str (by simp [matchStr])))⟩
    · exact ⟨['\t'], cs, rfl, by simp, hcs, fun p =>
        has_WHITESPACE.ok (EOk.alt2 (EFail.str (by simp [matchStr])) (EOk.alt1 (EOk.str (by simp [matchStr]))))⟩
    · exact ⟨['\n'], cs, rfl, by simp, hcs, fun p =>
        viaNewline p (EFail.str (by simp [matchStr])) (EFail.str (by simp [matchStr])) EOk.newline_n⟩
    · by_cases h2 : (cs ++ r).head? = some '\n'
      · -- `\r\n` is one line end; the `\n` is in the run, since `r` does not start with white space
        cases cs with
        | nil => exact absurd (hr '\n' (by simpa using h2)) (by decide)
        | cons d ds =>
          obtain rfl : d = '\n' := by simpa using h2
          exact ⟨['\r', '\n'], ds, rfl, by simp, fun x hx => hcs x (by simp [hx]), fun p =>
            viaNewline p (EFail.str (by simp [matchStr])) (EFail.str (by simp [matchStr])) EOk.newline_rn⟩
      · exact ⟨['\r'], cs, rfl, by simp, hcs, fun p =>
          viaNewline p (EFail.str (by simp [matchStr])) (EFail.str (by simp [matchStr])) (EOk.newline_r h2)⟩

theorem WsOk.run {w r : List Char} {p : Nat} (hw : ∀ c ∈ w, isWsChar c = true) (hr : NoWsStart r) :
    WsOk X ⟨p, w ++ r⟩ ⟨p + w.length, r⟩ :=
  run_of_steps (fun _ => WsOk.stop (ws_fail hr)) (fun h hp hr => WsOk.step h hp hr) (ws_steps hr) hw p

theorem wsPlus {w r : List Char} {p : Nat} (hne : w ≠ []) (hw : ∀ c ∈ w, isWsChar c = true) (hr : NoWsStart r) :
    EOk X true (.plus (.ref "WHITESPACE")) ⟨p, w ++ r⟩ ⟨p + w.length, r⟩ [] :=
  plus_run (fun _ => EFail.ref (ws_fail hr)) (fun n hn hne => by
    obtain ⟨n1, n2, e, h1, h2, h3⟩ := ws_steps (a := true) hr n hn hne
    exact ⟨n1, n2, e, h1, h2, fun p => EOk.ref (h3 p)⟩) hw hne p

theorem long_step {p : Nat} {c : Char} {cs : List Char} (h : ¬ (c = '*' ∧ cs.head? = some '/')) :
    EOk X true eLong ⟨p, c :: cs⟩ ⟨p + 1, cs⟩ [] := by
  have hm : matchStr ['*', '/'] ⟨p, c :: cs⟩ = none := by
    by_cases hc : '*' = c
    · subst hc
      simpa [matchStr] using matchStr_head_ne (k := []) (p := p + 1) (fun e => h ⟨rfl, e⟩)
    · simp [matchStr, hc]
  exact EOk.seqA (g := X) (EOk.not (EFail.str hm)) EOk.any

theorem long_stop {p : Nat} {r : List Char} : EFail X true eLong ⟨p, '*' :: '/' :: r⟩ :=
  EFail.seq1 (EFail.not (EOk.str (s' := ⟨p + 1 + 1, r⟩) (by simp [matchStr])))

theorem long_inner {body : List Char} {p : Nat} {r : List Char} (hb : longBody body = true) :
    EOk X true (.star eLong) ⟨p, body ++ '*' :: '/' :: r⟩ ⟨p + body.length, '*' :: '/' :: r⟩ [] :=
  star_run (Q := fun b => longBody b = true) (fun _ => long_stop) (char_steps fun c cs h => by
    simp only [longBody, Bool.and_eq_true, Bool.not_eq_true', Bool.and_eq_false_iff] at h
    refine ⟨h.2, fun _ => long_step ?_⟩
    rintro ⟨rfl, h2⟩
    cases cs with
    | nil => simp at h2
    | cons d ds => simp_all) hb p

theorem comment_long_ok {body : List Char} {p : Nat} {r : List Char} (hb : longBody body = true) :
    ROk X true "comment_long" ⟨p, '/' :: '*' :: (body ++ '*' :: '/' :: r)⟩ ⟨p + 1 + 1 + body.length + 1 + 1, r⟩ [] :=
  has_comment_long.okA (EOk.seqA (s1 := ⟨p + 1 + 1, body ++ '*' :: '/' :: r⟩) (EOk.str (by simp [matchStr]))
    (EOk.seqA (EOk.ref (has_comment_long_inner.okA (long_inner hb))) (EOk.str (s' := ⟨p + 1 + 1 + body.length + 1 + 1, r⟩) (by simp [matchStr]))))

/-- where a line comment ends -/
def ShortEnd (r : List Char) : Prop := r = [] ∨ ∃ c cs, r = c :: cs ∧ (c = '\n' ∨ c = '\r')

theorem short_step {p : Nat} {c : Char} {cs : List Char} (h1 : c ≠ '\n') (h2 : c ≠ '\r') :
    EOk X true eShort ⟨p, c :: cs⟩ ⟨p + 1, cs⟩ [] :=
  EOk.seqA (g := X) (EOk.not (EFail.newline h1 h2)) (EOk.any (c := c) (cs := cs))

theorem short_stop {p : Nat} {r : List Char} (h : ShortEnd r) : EFail X true eShort ⟨p, r⟩ := by
  rcases h with rfl | ⟨c, cs, rfl, hc⟩
  · exact EFail.seq2A (EOk.not EFail.newline_nil) EFail.any_nil
  · rcases hc with rfl | rfl
    · exact EFail.seq1 (EFail.not EOk.newline_n)
    · by_cases hn : cs.head? = some '\n'
      · cases cs with
        | nil => simp at hn
        | cons d ds =>
          obtain rfl : d = '\n' := by simpa using hn
          exact EFail.seq1 (EFail.not EOk.newline_rn)
      · exact EFail.seq1 (EFail.not (EOk.newline_r hn))

theorem short_inner {body : List Char} {p : Nat} {r : List Char} (hb : shortBody body = true) (hr : ShortEnd r) :
    EOk X true (.star eShort) ⟨p, body ++ r⟩ ⟨p + body.length, r⟩ [] :=
  star_run (Q := fun b => shortBody b = true) (fun _ => short_stop hr) (char_steps fun c cs h => by
    simp only [shortBody, List.all_cons, Bool.and_eq_true, bne_iff_ne, ne_eq] at h
    exact ⟨by simpa [shortBody] using h.2, fun _ => short_step h.1.1 h.1.2⟩) hb p

theorem comment_short_ok {body : List Char} {p : Nat} {r : List Char} (hb : shortBody body = true) (hr : ShortEnd r) :
    ROk X true "comment_short" ⟨p, '/' :: '/' :: (body ++ r)⟩ ⟨p + 1 + 1 + body.length, r⟩ [] :=
  has_comment_short.okA (EOk.seqA (s1 := ⟨p + 1 + 1, body ++ r⟩) (EOk.str (by simp [matchStr])) (EOk.ref (has_comment_short_inner.okAtA (short_inner hb hr))))

theorem comment_ok {a : Bool} (c : Cmt) {p : Nat} {r : List Char} (hc : c.ok = true) (hr : c.isShort = true → ShortEnd r) :
    ROk X a "COMMENT" ⟨p, c.text ++ r⟩ ⟨p + c.text.length, r⟩ [] := by
  cases c with
  | long b =>
    have h := has_COMMENT.ok (a := a) (EOk.alt1 (EOk.ref (comment_long_ok (p := p) (r := r) hc)))
    have e : p + (Cmt.long b).text.length = p + 1 + 1 + b.length + 1 + 1 := by simp [Cmt.text]; omega
    rw [e]
    simpa [Cmt.text] using h
  | short b =>
    have h := has_COMMENT.ok (a := a) (EOk.alt2 (EFail.ref (has_comment_long.fail (EFail.seq1 (EFail.str (by simp [matchStr])))))
      (EOk.ref (comment_short_ok (p := p) (r := r) hc (hr rfl))))
    have e : p + (Cmt.short b).text.length = p + 1 + 1 + b.length := by simp [Cmt.text]; omega
    rw [e]
    simpa [Cmt.text] using h

theorem comment_fail {a : Bool} {p : Nat} {r : List Char} (h : NoLayoutStart r) : RFail X a "COMMENT" ⟨p, r⟩ := by
  have hs : r.head? ≠ some '/' := fun e => (h '/' e).2 rfl
  exact has_COMMENT.fail (EFail.alt (EFail.ref (has_comment_long.fail (EFail.seq1 (EFail.str (matchStr_head_ne hs)))))
    (EFail.ref (has_comment_short.fail (EFail.seq1 (EFail.str (matchStr_head_ne hs))))))

theorem skOk_segs : ∀ (segs : List (Cmt × List Char)) (lead : List Char) (p : Nat) (r : List Char),
    allWs lead = true → segsOk segs = true → NoLayoutStart r →
    SkOk X ⟨p, lead ++ segsText segs ++ r⟩ ⟨p + (lead ++ segsText segs).length, r⟩ := by
  intro segs
  induction segs with
  | nil =>
    intro lead p r hl _ hr
    simp only [segsText, List.append_nil]
    exact SkOk.stop (WsOk.run (allWs_mem hl) hr.ws) (comment_fail hr)
  | cons cw rest ih =>
    intro lead p r hl hs hr
    obtain ⟨c, w⟩ := cw
    obtain ⟨hc, hw, hsh, hrest⟩ := segsOk_cons hs
    have hws : WsOk X ⟨p, lead ++ (segsText ((c, w) :: rest) ++ r)⟩ ⟨p + lead.length, segsText ((c, w) :: rest) ++ r⟩ :=
      WsOk.run (allWs_mem hl) (noWs_layout (L := ⟨[], (c, w) :: rest⟩) rfl hr.ws)
    have hcm : ROk X true "COMMENT" ⟨p + lead.length, c.text ++ (w ++ segsText rest ++ r)⟩
        ⟨p + lead.length + c.text.length, w ++ segsText rest ++ r⟩ [] := by
      refine comment_ok c hc (fun hshort => ?_)
      have h := hsh hshort
      cases w with
      | nil => simp [nlStart] at h
      | cons d ds =>
        simp only [nlStart, Bool.or_eq_true, beq_iff_eq] at h
        exact .inr ⟨d, ds ++ segsText rest ++ r, by simp, h⟩
    have hrec := ih w (p + lead.length + c.text.length) r hw hrest hr
    have e : p + (lead ++ segsText ((c, w) :: rest)).length = p + lead.length + c.text.length + (w ++ segsText rest).length := by
      simp [segsText]; omega
    rw [e]
    have hpos : (⟨p + lead.length + c.text.length, w ++ segsText rest ++ r⟩ : St).pos ≠ (⟨p + lead.length, segsText ((c, w) :: rest) ++ r⟩ : St).pos := by
      cases c <;> simp [Cmt.text]
    refine SkOk.step (ts := []) (s1 := ⟨p + lead.length, segsText ((c, w) :: rest) ++ r⟩) ?_ ?_ hpos hrec
    · simpa [List.append_assoc] using hws
    · simpa [segsText, List.append_assoc] using hcm

theorem skOk_layout (l : Layout) (p : Nat) (r : List Char) (hl : l.ok = true) (hr : NoLayoutStart r) :
    SkOk X ⟨p, l.text ++ r⟩ ⟨p + l.text.length, r⟩ := by
  have ok := Layout.of_ok hl
  exact skOk_segs l.segs l.lead p r ok.lead ok.segs hr

theorem skOk_none (p : Nat) (r : List Char) (hr : NoLayoutStart r) : SkOk X ⟨p, r⟩ ⟨p, r⟩ := by
  simpa [nl, Layout.text, segsText] using skOk_layout nl p r rfl hr

end Fx.Parse
