/-
  Fx.Lemmas.ParsePlain — which declarations keep the constructors of `src/ast` away from their panics (findings K6.a/b/c/f):
  a decidable predicate on the concrete syntax, and the proof that it suffices.
-/
import Fx.Lemmas.ParseAst
import Fx.Lemmas.WalkTotal
import Fx.Lemmas.Bins
namespace Fx.Parse
open Fx.Peg

/-- the name is not a spelling `BasicType::from` turns into a built-in type (`bool`, `uint32_t`, `u32`, …) -/
def nameIsIdent (n : List Char) : Bool :=
  match nameTy n with
  | .ident _ => true
  | _ => false

theorem nameIsIdent_iff {n : List Char} : nameIsIdent n = true ↔ ∃ s, nameTy n = .ident s := by
  rw [nameIsIdent]
  cases nameTy n <;> simp

/-- what `StructField::new` accepts (K6.b, K6.f) -/
def Field.plainStruct (f : Field) : Bool := nameIsIdent f.name && !(f.star.isSome && f.arr.isSome)

/-- what `UnionCase::new` accepts (K6.a) -/
def Field.plainArm (f : Field) : Bool := nameIsIdent f.name && f.star.isNone && f.arr.isNone

/-- an enum member value `VariantValue::from` accepts: not a hex literal, or one below 2^31 (K6.c) -/
def VariantD.plain (v : VariantD) : Bool := (VariantValue.ofStr (nameTy v.val).asStr).isOk

def Body.plain : Body → Bool
  | .void _ => true
  | .field f => f.plainArm

def Arm.plain : Arm → Bool
  | .case _ _ _ _ none => true
  | .case _ _ _ _ (some b) => b.plain
  | .dflt _ _ b => b.plain

def Decl.plain : Decl → Bool
  | .const _ => true
  | .typedef _ => true
  | .enum d => d.first.plain && d.more.all (fun m => m.2.1.plain)
  | .struct d => d.fields.all (fun fl => fl.1.plainStruct)
  | .union d => d.arms.all (fun al => al.1.plain)

/-- **no declaration uses one of the constructs recorded as K6.a, K6.b, K6.c, K6.f** -/
def Spec.plain (s : Spec) : Bool := s.decls.all (fun dl => dl.1.plain)

theorem arr_node (a : Arr) : IsArr a.node := by
  cases a with
  | var l1 len => cases len with
    | none => exact .inl ⟨_, rfl⟩
    | some bl => obtain ⟨n, l2⟩ := bl; exact .inl ⟨_, rfl⟩
  | fixed l1 n l2 => exact .inr ⟨_, rfl⟩

theorem tyref_node (t : TyRef) : IsType t.node := by cases t <;> exact ⟨_, rfl⟩

theorem structField_ok (f : Field) (h : f.plainStruct = true) : (StructField.new (.structDataField f.nodes)).isOk = true := by
  simp only [Field.plainStruct, Bool.and_eq_true, Bool.not_eq_true', Bool.and_eq_false_iff] at h
  obtain ⟨s, hs⟩ := nameIsIdent_iff.mp h.1
  obtain ⟨b, hb⟩ := tyref_node f.ty
  simp only [Field.nodes, Field.nameNode, hb]
  cases hst : f.star with
  | none =>
    cases harr : f.arr with
    | none => simp [arrNodes, StructField.new, hs, Out.isOk]
    | some al =>
      rcases arr_node al.1 with ⟨x, hx⟩ | ⟨x, hx⟩ <;> simp [arrNodes, StructField.new, hs, hx, Out.isOk]
  | some ls =>
    cases harr : f.arr with
    | none => simp [arrNodes, StructField.new, hs, Out.isOk]
    | some al => rcases h.2 with h' | h' <;> simp [hst, harr] at h'

theorem unionCase_ok (cv : List String) (f : Field) (h : f.plainArm = true) : (UnionCase.new cv f.nodes).isOk = true := by
  simp only [Field.plainArm, Bool.and_eq_true, Option.isNone_iff_eq_none] at h
  obtain ⟨s, hs⟩ := nameIsIdent_iff.mp h.1.1
  obtain ⟨b, hb⟩ := tyref_node f.ty
  simp [Field.nodes, Field.nameNode, hb, h.1.2, h.2, arrNodes, hs, UnionCase.new, Out.isOk]

theorem typedef_ok (f : Field) (hst : f.star = none) : (Typedef.new f.nodes).isOk = true := by
  obtain ⟨b, hb⟩ := tyref_node f.ty
  simp only [Field.nodes, Field.nameNode, hb, hst]
  cases harr : f.arr with
  | none => simp [arrNodes, Typedef.new, Out.isOk]
  | some al =>
    rcases arr_node al.1 with ⟨x, hx⟩ | ⟨x, hx⟩
    · simp only [arrNodes, hx, Typedef.new]
      split
      · split <;> rfl
      · rfl
    · simp [arrNodes, hx, Typedef.new, Out.isOk]

theorem variant_ok (v : VariantD) (h : v.plain = true) : (Variant.new v.node).isOk = true := by
  simp only [VariantD.plain] at h
  obtain ⟨x, hx⟩ := Out.isOk_iff.mp h
  simp [VariantD.node, Variant.new, Node.identStr, hx, Out.isOk]

theorem unionStep_ok (acc : UAcc) (a : Arm) (h : a.plain = true) : (Union.step acc a.node).isOk = true := by
  cases a with
  | case la lab lb lc body =>
    cases body with
    | none => simp [Arm.node, Lit.node, Union.step, CaseStmt.parse, Out.isOk]
    | some b =>
      cases b with
      | void l => simp [Arm.node, Lit.node, Body.node, Union.step, CaseStmt.parse, Out.isOk]
      | field f =>
        obtain ⟨c, hc⟩ := Out.isOk_iff.mp (unionCase_ok (acc.pending ++ [(nameTy lab.text).asStr]) f h)
        simp [Arm.node, Lit.node, Body.node, Union.step, CaseStmt.parse, hc, Out.isOk]
  | dflt la lb body =>
    cases body with
    | void l => simp [Arm.node, Body.node, Union.step, CaseStmt.parse, Out.isOk]
    | field f =>
      obtain ⟨c, hc⟩ := Out.isOk_iff.mp (unionCase_ok (acc.pending ++ ["default"]) f h)
      simp [Arm.node, Body.node, Union.step, CaseStmt.parse, hc, Out.isOk]

theorem unionLoop_ok : ∀ (arms : List (Arm × Layout)) (acc : UAcc), (∀ al ∈ arms, al.1.plain = true) →
    (Union.loop acc (arms.map (fun al => al.1.node))).isOk = true := by
  intro arms
  induction arms with
  | nil => intro acc _; rfl
  | cons al als ih =>
    intro acc h
    obtain ⟨acc', hacc⟩ := Out.isOk_iff.mp (unionStep_ok acc al.1 (h al (by simp)))
    simp only [List.map_cons, Union.loop, hacc, Out.bind_ok]
    exact ih acc' (fun x hx => h x (by simp [hx]))

theorem decl_node_ok (d : Decl) (hok : d.ok = true) (h : d.plain = true) : ∃ n, d.node = .ok n ∧ ItemNode n := by
  cases d with
  | const d => exact ⟨_, rfl, by simp [ItemNode, itemOf, Node.identStr, Out.isOk]⟩
  | typedef d =>
    obtain ⟨t, ht⟩ := Out.isOk_iff.mp (typedef_ok d.f (TypedefD.of_ok hok).star)
    exact ⟨.typedef t, by simp [Decl.node, TypedefD.node, ht], by simp [ItemNode, itemOf, Out.isOk]⟩
  | enum d =>
    simp only [Decl.plain, Bool.and_eq_true, List.all_eq_true] at h
    have hm : (mapOut Variant.new (d.first.node :: d.more.map (fun m => m.2.1.node))).isOk = true := by
      refine mapOut_isOk (fun x hx => ?_)
      rcases List.mem_cons.mp hx with rfl | hx
      · exact variant_ok d.first h.1
      · obtain ⟨m, hm, rfl⟩ := List.mem_map.mp hx
        exact variant_ok m.2.1 (h.2 m hm)
    obtain ⟨vs, hvs⟩ := Out.isOk_iff.mp hm
    exact ⟨.enum ⟨(nameTy d.name).asStr, vs⟩, by simp [Decl.node, EnumD.node, Enum.new, Node.identStr, hvs],
      by simp [ItemNode, itemOf, Out.isOk]⟩
  | struct d =>
    simp only [Decl.plain, List.all_eq_true] at h
    have hm : (mapOut StructField.new (d.fields.map (fun fl => Node.structDataField fl.1.nodes))).isOk = true := by
      refine mapOut_isOk (fun x hx => ?_)
      obtain ⟨fl, hfl, rfl⟩ := List.mem_map.mp hx
      exact structField_ok fl.1 (h fl hfl)
    obtain ⟨fs, hfs⟩ := Out.isOk_iff.mp hm
    exact ⟨.struct ⟨(nameTy d.name).asStr, fs⟩, by simp [Decl.node, StructD.node, Struct.new, Node.identStr, hfs],
      by simp [ItemNode, itemOf, Out.isOk]⟩
  | union d =>
    simp only [Decl.plain, List.all_eq_true] at h
    obtain ⟨acc, hacc⟩ := Out.isOk_iff.mp (unionLoop_ok d.arms {} h)
    obtain ⟨b, hb⟩ := tyref_node d.ty
    exact ⟨_, by simp [Decl.node, UnionD.node, Union.new, Node.identStr, hb, hacc]; rfl, by simp [ItemNode, itemOf, Out.isOk]⟩

/-- **plain declarations reach no constructor panic**: the front end answers `Ok`, or stops at the duplicate-name check of
    `ConstantIndex::new` (finding K6.d) -/
theorem plain_front (s : Spec) (hok : s.ok = true) (hp : s.plain = true) :
    (∃ a, Ast.ofPairs [s.root] = .ok a) ∨ Ast.ofPairs [s.root] = .panicAt "constants.rs" "duplicate case keys" := by
  simp only [Spec.plain, List.all_eq_true] at hp
  have hnodes : ∀ (l : List (Decl × Layout)), (∀ dl ∈ l, dl.1.ok = true ∧ dl.1.plain = true) →
      ∃ ns, mapOut (fun dl : Decl × Layout => dl.1.node) l = .ok ns ∧ ∀ n ∈ ns, ItemNode n := by
    intro l
    induction l with
    | nil => intro _; exact ⟨[], rfl, fun _ h => by simp at h⟩
    | cons dl dls ih =>
      intro h
      obtain ⟨n, hn, hin⟩ := decl_node_ok dl.1 (h dl (by simp)).1 (h dl (by simp)).2
      obtain ⟨ns, hns, hall⟩ := ih (fun x hx => h x (by simp [hx]))
      refine ⟨n :: ns, by simp [mapOut, hn, hns], ?_⟩
      intro x hx
      rcases List.mem_cons.mp hx with rfl | hx
      · exact hin
      · exact hall x hx
  obtain ⟨ns, hns, hall⟩ := hnodes s.decls (fun dl hdl => ⟨((Spec.of_ok hok).decls dl hdl).1, hp dl hdl⟩)
  have hitems : (itemsOf (ns ++ [.eof])).isOk = true := by
    refine itemsOf_ok _ (fun n hn => ?_)
    rcases List.mem_append.mp hn with h | h
    · exact hall n h
    · simp at h; subst h; simp [ItemNode, itemOf, Out.isOk]
  obtain ⟨items, hit⟩ := Out.isOk_iff.mp hitems
  simp only [Ast.ofPairs, walk_root s hok, hns, Out.bind_ok, hit, Ast.ofItems, ConstantIndex.new]
  rcases constInsertAll_ok_or_dup (constEntries items) [] with hr | hr
  · exact .inl ⟨_, by rw [hr]; rfl⟩
  · exact .inr (by rw [hr]; rfl)

end Fx.Parse
