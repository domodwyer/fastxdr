/-
  Fx.Lemmas.ParseLeaf — the leaf tokens of the grammar regenerated from `src/xdr.pest`: identifiers, numbers, the
  built-in type spellings; where each of them is accepted and where it is rejected.
-/
import Fx.Lemmas.ParseLayout
namespace Fx.Parse
open Fx.Peg

/-- a literal `k` of identifier characters that matches on `n ++ r` (`n` identifier characters other than `k`, `r` not
    continuing an identifier) stops inside `n`: an identifier character follows -/
theorem matchStr_ident : ∀ {k n : List Char} {r : List Char} {p : Nat} {s' : St}, allIdent k = true → allIdent n = true →
    NoIdentStart r → matchStr k ⟨p, n ++ r⟩ = some s' → n ≠ k → ∃ c cs, s'.rest = c :: cs ∧ isIdentChar c = true := by
  intro k
  induction k with
  | nil =>
    intro n r p s' _ hn _ hm hne
    simp only [matchStr, Option.some.injEq] at hm
    subst hm
    cases n with
    | nil => exact absurd rfl hne
    | cons c cs => exact ⟨c, cs ++ r, rfl, allIdent_mem hn c (by simp)⟩
  | cons kc k' ih =>
    intro n r p s' hk hn hr hm hne
    have hkc : isIdentChar kc = true := allIdent_mem hk kc (by simp)
    have hk' : allIdent k' = true := by simp [allIdent] at hk ⊢; exact hk.2
    cases n with
    | nil =>
      simp only [List.nil_append] at hm
      cases r with
      | nil => simp [matchStr] at hm
      | cons d ds =>
        have hd := hr d rfl
        have : ¬ (kc = d) := fun e => by subst e; rw [hkc] at hd; exact absurd hd (by simp)
        simp [matchStr, this] at hm
    | cons d n' =>
      have hn' : allIdent n' = true := by simp [allIdent] at hn ⊢; exact hn.2
      by_cases e : kc = d
      · subst e
        simp only [List.cons_append, matchStr, if_true] at hm
        exact ih hk' hn' hr hm (fun e => hne (by rw [e]))
      · simp [matchStr, e] at hm

theorem altWords_ident {n r : List Char} {p : Nat} (hn : allIdent n = true) (hr : NoIdentStart r) :
    ∀ (ks : List (List Char)), ks ≠ [] → (∀ k ∈ ks, allIdent k = true) → n ∉ ks →
    EFail X true (altWords ks) ⟨p, n ++ r⟩ ∨
      ∃ s', EOk X true (altWords ks) ⟨p, n ++ r⟩ s' [] ∧ ∃ c cs, s'.rest = c :: cs ∧ isIdentChar c = true
  | [], h, _, _ => absurd rfl h
  | [k], _, hk, hne => by
    cases hm : matchStr k ⟨p, n ++ r⟩ with
    | none => exact .inl (EFail.str hm)
    | some s' => exact .inr ⟨s', EOk.str hm, matchStr_ident (hk k (by simp)) hn hr hm (fun e => hne (by simp [e]))⟩
  | k :: k' :: ks, _, hk, hne => by
    cases hm : matchStr k ⟨p, n ++ r⟩ with
    | some s' =>
      exact .inr ⟨s', EOk.alt1 (EOk.str hm), matchStr_ident (hk k (by simp)) hn hr hm (fun e => hne (by simp [e]))⟩
    | none =>
      rcases altWords_ident hn hr (k' :: ks) (by simp) (fun w hw => hk w (by simp [hw])) (fun e => hne (by simp [e])) with
        h | ⟨s', h, hs⟩
      · exact .inl (EFail.alt (EFail.str hm) h)
      · exact .inr ⟨s', EOk.alt2 (EFail.str hm) h, hs⟩

theorem altWords_ws_fail {n r : List Char} {p : Nat} (hn : allIdent n = true) (hr : NoIdentStart r) (ks : List (List Char))
    (hks : ks ≠ []) (hk : ∀ k ∈ ks, allIdent k = true) (hne : n ∉ ks) : EFail X true (.seq (altWords ks) eWsP) ⟨p, n ++ r⟩ := by
  rcases altWords_ident hn hr ks hks hk hne with h | ⟨⟨q, rest⟩, h, c, cs, rfl, hc⟩
  · exact EFail.seq1 h
  · exact EFail.seq2A h (EFail.plus (EFail.ref (ws_fail (Ahead.cons (ident_not_ws hc)))))

/-- `n = []` covers a text that is no identifier at all -/
theorem basic_type_fail {a : Bool} {n r : List Char} {p : Nat} (hn : allIdent n = true) (hr : NoIdentStart r)
    (hw : n ∉ typeWords) : RFail X a "basic_type" ⟨p, n ++ r⟩ := by
  have hw' : n ∉ [kwUnsigned] ∧ n ∉ intWords ∧ n ∉ otherWords := by
    simpa only [typeWords_eq, List.mem_cons, List.mem_append, List.mem_singleton, List.not_mem_nil, or_false, not_or] using hw
  exact has_basic_type.failAt (EFail.alt
    (EFail.seq2A (EOk.opt_none (altWords_ws_fail hn hr [kwUnsigned] (by simp) (by decide) hw'.1))
      (altWords_ws_fail hn hr intWords (by decide) (by decide) hw'.2.1))
    (altWords_ws_fail hn hr otherWords (by decide) (by decide) hw'.2.2))

theorem idchar_ok {p : Nat} {c : Char} {cs : List Char} (h : isIdentChar c = true) : EOk X true eIdChar ⟨p, c :: cs⟩ ⟨p + 1, cs⟩ [] := by
  cases ha : isAsciiAlnum c with
  | true => exact EOk.alt1 (EOk.alnum ha)
  | false =>
    have : c = '_' := by simpa [isIdentChar, ha] using h
    subst this
    exact EOk.alt2 (EFail.alnum ha) (EOk.str (by simp [matchStr]))

theorem idchar_fail {p : Nat} {r : List Char} (h : NoIdentStart r) : EFail X true eIdChar ⟨p, r⟩ := by
  cases r with
  | nil => exact EFail.alt EFail.alnum_nil (EFail.str (by simp [matchStr]))
  | cons c cs =>
    have hc := h c rfl
    simp only [isIdentChar, Bool.or_eq_false_iff, beq_eq_false_iff_ne, ne_eq] at hc
    have : ¬ ('_' = c) := fun e => hc.2 e.symm
    exact EFail.alt (EFail.alnum hc.1) (EFail.str (by simp [matchStr, this]))

theorem idchars_plus {n r : List Char} {p : Nat} (hne : n ≠ []) (hn : allIdent n = true) (hr : NoIdentStart r) :
    EOk X true (.plus eIdChar) ⟨p, n ++ r⟩ ⟨p + n.length, r⟩ [] :=
  plus_run (Q := fun n => allIdent n = true) (fun _ => idchar_fail hr) (char_steps fun c cs h => by
    simp only [allIdent, List.all_cons, Bool.and_eq_true] at h
    exact ⟨h.2, fun _ => idchar_ok h.1⟩) hn hne p

theorem ident_ok {n r : List Char} {p : Nat} (hv : validIdent n = true) (hr : NoIdentStart r) :
    ROk X false "ident" ⟨p, n ++ r⟩ ⟨p + n.length, r⟩ [Pair.mk "ident" n []] := by
  obtain ⟨hne, hn, hw⟩ := validIdent_iff.mp hv
  have h := has_ident.okAt (s := ⟨p, n ++ r⟩) (s' := ⟨p + n.length, r⟩) (ts := [] ++ [])
    (EOk.seqA (EOk.not (EFail.ref (basic_type_fail hn hr hw))) (idchars_plus hne hn hr))
  rwa [consumed_app] at h

theorem ident_fail {a : Bool} {r : List Char} {p : Nat} (hr : NoIdentStart r) : RFail X a "ident" ⟨p, r⟩ := by
  refine has_ident.failAt ?_
  have hb : RFail X true "basic_type" ⟨p, [] ++ r⟩ := basic_type_fail rfl hr (by decide)
  exact EFail.seq2A (EOk.not (EFail.ref hb)) (EFail.plus (idchar_fail hr))

theorem digit_fail {p : Nat} {r : List Char} (h : NoDigitStart r) : EFail X true .digit ⟨p, r⟩ := by
  cases r with
  | nil => exact EFail.digit_nil
  | cons c cs => exact EFail.digit (h c rfl)

theorem value_ok {n r : List Char} {p : Nat} (hne : n ≠ []) (hn : allDigit n = true) (hr : NoDigitStart r) :
    ROk X false "ident_value" ⟨p, n ++ r⟩ ⟨p + n.length, r⟩ [Pair.mk "ident_value" n []] := by
  have h := has_ident_value.okAt (plus_run (Q := fun n => allDigit n = true) (fun _ => digit_fail hr) (char_steps fun c cs h => by
    simp only [allDigit, List.all_cons, Bool.and_eq_true] at h
    exact ⟨h.2, fun _ => EOk.digit h.1⟩) hn hne p)
  rwa [consumed_app] at h

theorem value_fail {a : Bool} {r : List Char} {p : Nat} (hr : NoDigitStart r) : RFail X a "ident_value" ⟨p, r⟩ :=
  has_ident_value.failAt (EFail.plus (digit_fail hr))

/-- the body of `array_length` and of `union_case_value` -/
theorem lit_ok (l : Lit) {r : List Char} {p : Nat} (hl : l.ok = true) (hr : NoIdentStart r) :
    EOk X false (.alt (.ref "ident_value") (.ref "ident_const")) ⟨p, l.text ++ r⟩ ⟨p + l.text.length, r⟩ l.tokens := by
  cases l with
  | num d =>
    obtain ⟨hne, hd⟩ := Lit.num_ok hl
    exact EOk.alt1 (EOk.ref (value_ok hne hd hr.digit))
  | name n =>
    obtain ⟨hv, c, cs, rfl, hd⟩ := Lit.name_ok hl
    have hf : RFail X false "ident_value" ⟨p, (c :: cs) ++ r⟩ := value_fail (Ahead.cons hd)
    have hc := has_ident_const.ok (EOk.ref (ident_ok (p := p) hv hr))
    rw [consumed_app] at hc
    exact EOk.alt2 (EFail.ref hf) (EOk.ref hc)

end Fx.Parse
