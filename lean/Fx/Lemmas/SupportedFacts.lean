/-
  Fx.Lemmas.SupportedFacts — what `Supported` says: of the two indexes entry by entry (`SFacts`), of `typeOk`
  conjunct by conjunct (`…_facts`, `declaratorOk_iff`, `labelKindOk_*`): the only places where these predicates are unfolded.
-/
import Fx.Supported
import Fx.Lemmas.Emit
import Fx.Lemmas.IndexFacts
namespace Fx

theorem Supported.facts {a : Ast} (h : Supported a = true) :
    keysOk a = true ∧ a.types.all (fun kv => typeOk a kv.2) = true ∧ constNamesOk a = true ∧ enumConstsOk a = true ∧
      constsWellFormed a = true := by
  simp only [Supported, Bool.and_eq_true] at h
  exact ⟨h.1.1.1.1.1, h.1.1.1.1.2, h.1.1.1.2, h.1.1.2, h.1.2⟩

theorem Supported.noC {a : Ast} (h : Supported a = true) : bget "c" a.constants = none := by
  simp only [Supported, Bool.and_eq_true, noGuardConst, Option.isNone_iff_eq_none] at h
  exact h.2

theorem keysOk_facts {a : Ast} (h : keysOk a = true) :
    (∀ kv ∈ a.types, kv.1 = kv.2.rustName) ∧ (∀ kv ∈ a.types, (BasicType.ident kv.1).asSafeString = kv.1) ∧ keysSorted a.types = true := by
  simp only [keysOk, Bool.and_eq_true] at h
  obtain ⟨hall, hs⟩ := h
  refine ⟨?_, ?_, hs⟩
  · intro kv hkv
    have := (List.all_eq_true.mp hall) kv hkv
    simp only [Bool.and_eq_true, beq_iff_eq] at this
    exact this.1
  · intro kv hkv
    have := (List.all_eq_true.mp hall) kv hkv
    simp only [Bool.and_eq_true, nameSafe, beq_iff_eq] at this
    exact this.2

theorem declared_iff {a : Ast} {n : String} : declared a n = true ↔ ∃ ty, bget n a.types = some ty := by
  simp only [declared, Option.isSome_iff_exists]

def NamesSafe (a : Ast) : Prop := ∀ n, declared a n = true → (BasicType.ident n).asSafeString = n

/-- in `bget` form, as `PlansFor`, `RT`, `FitsCtx.decl`: that is how emitters and reference reach a declaration; `lookup` bridges
    from membership (the keys are strictly sorted) -/
structure SFacts (a : Ast) : Prop where
  keys : ∀ kv ∈ a.types, kv.1 = kv.2.rustName
  lookup : ∀ kv ∈ a.types, bget kv.1 a.types = some kv.2
  safe : NamesSafe a
  typeOk : ∀ n ty, bget n a.types = some ty → Fx.typeOk a ty = true
  constNames : ∀ k c, bget k a.constants = some c →
    parseDecOrHex k = none ∧ k ≠ "TRUE" ∧ k ≠ "FALSE" ∧ (∀ t, c = .constValue t → safeName t = t)
  noBoolConst : bget "TRUE" a.constants = none ∧ bget "FALSE" a.constants = none
  enumConsts : ∀ n e, bget n a.types = some (.enum e) → ∀ v ∈ e.variants, bget v.name a.constants = some (.enumValue n v.name)
  constsWF : ∀ k e v, bget k a.constants = some (.enumValue e v) →
    v = k ∧ ∃ en, bget e a.types = some (.enum en) ∧ ∃ var ∈ en.variants, var.name = k
  noC : bget "c" a.constants = none
  plusFree : ∀ k t, bget k a.constants = some (.constValue t) → Fx.plusFree t = true

theorem sfacts_of_supported {a : Ast} (hs : Supported a = true) : SFacts a := by
  obtain ⟨hkeys, htypes, hcn, hec, hwf⟩ := Supported.facts hs
  obtain ⟨hkn, hsafe, hsorted⟩ := keysOk_facts hkeys
  have hcn' : ∀ kv ∈ a.constants, parseDecOrHex kv.1 = none ∧ kv.1 ≠ "TRUE" ∧ kv.1 ≠ "FALSE" ∧
      (∀ t, kv.2 = .constValue t → safeName t = t) := by
    intro kv hkv
    have := (List.all_eq_true.mp hcn) kv hkv
    simp only [Bool.and_eq_true, Option.isNone_iff_eq_none, bne_iff_ne, ne_eq] at this
    refine ⟨this.1.1.1, this.1.1.2, this.1.2, ?_⟩
    intro t ht
    have h4 := this.2
    rw [ht] at h4
    simp only [Bool.and_eq_true, beq_iff_eq] at h4
    exact h4.1
  refine ⟨hkn, fun kv h => bget_of_mem_sortedK (sortedK_of_keysSorted _ hsorted) h, fun n hd => ?_, ?_, ?_, ?_, ?_, ?_,
    Supported.noC hs, ?_⟩
  · obtain ⟨ty, hb⟩ := declared_iff.mp hd
    exact hsafe (n, ty) (mem_of_bget hb)
  · intro n ty hb
    exact (List.all_eq_true.mp htypes) (n, ty) (mem_of_bget hb)
  · intro k c hb
    exact hcn' (k, c) (mem_of_bget hb)
  · constructor
    · exact bget_eq_none (fun kv hkv => (hcn' kv hkv).2.1)
    · exact bget_eq_none (fun kv hkv => (hcn' kv hkv).2.2.1)
  · intro n e hb v hv
    have := (List.all_eq_true.mp hec) (n, .enum e) (mem_of_bget hb)
    simp only at this
    have := (List.all_eq_true.mp this) v hv
    simpa using this
  · intro k e v hb
    have := (List.all_eq_true.mp hwf) (k, .enumValue e v) (mem_of_bget hb)
    simp only [Bool.and_eq_true, beq_iff_eq] at this
    refine ⟨this.1, ?_⟩
    have h2 := this.2
    split at h2
    · rename_i en hbe
      simp only [List.any_eq_true, beq_iff_eq] at h2
      obtain ⟨var, hvar, hname⟩ := h2
      exact ⟨en, hbe, var, hvar, by rw [hname, this.1]⟩
    · cases h2
  · intro k t hb
    have := (List.all_eq_true.mp hcn) (k, .constValue t) (mem_of_bget hb)
    simp only [Bool.and_eq_true] at this
    exact this.2.2

theorem SFacts.entry {a : Ast} (F : SFacts a) {kv : String × AstType} (h : kv ∈ a.types) :
    bget kv.1 a.types = some kv.2 ∧ kv.1 = kv.2.rustName ∧ Fx.typeOk a kv.2 = true :=
  ⟨F.lookup kv h, F.keys kv h, F.typeOk _ _ (F.lookup kv h)⟩

theorem SFacts.enum_name {a : Ast} (F : SFacts a) {n : String} {e : Enum} (hb : bget n a.types = some (.enum e)) : e.name = n :=
  (F.keys (n, .enum e) (mem_of_bget hb)).symm

theorem SFacts.label_const {a : Ast} (F : SFacts a) {n : String} {e : Enum} (hb : bget n a.types = some (.enum e)) {l : String}
    (hl : e.variants.any (·.name == l) = true) : bget l a.constants = some (.enumValue n l) := by
  obtain ⟨w, hw, hwn⟩ := List.any_eq_true.mp hl
  rw [← beq_iff_eq.mp hwn]
  exact F.enumConsts n e hb w hw

/-- a declarator the emitters handle: its element type is declared, and its shape is one they have a decode expression for -/
def elemOk (a : Ast) : ArrayType → Bool
  | .none t => basicDeclared a t
  | .fixed .string _ => false
  | .fixed t _ => basicDeclared a t
  | .variable .opaque _ => true
  | .variable .string _ => true
  | .variable (.ident n) _ => declared a n
  | .variable _ _ => false

def sizesOk (a : Ast) : ArrayType → Bool
  | .none _ => true
  | .fixed _ sz => boundOk a sz
  | .variable _ m => optBoundOk a m

theorem boundOk_constant {a : Ast} {c : String} (h : boundOk a (.constant c) = true) :
    ∃ t n, bget c a.constants = some (.constValue t) ∧ parseU32 t = some n := by
  simp only [boundOk] at h
  split at h
  · rename_i t ht
    obtain ⟨n, hn⟩ := Option.isSome_iff_exists.mp h
    exact ⟨t, n, ht, hn⟩
  · cases h

/-- the third conjunct is finding K1 -/
theorem declaratorOk_iff {a : Ast} {at_ : ArrayType} :
    declaratorOk a at_ = true ↔ elemOk a at_ = true ∧ sizesOk a at_ = true ∧ at_ ≠ .none .opaque := by
  rcases at_ with t | ⟨t, sz⟩ | ⟨t, m⟩ <;> cases t <;> simp [declaratorOk, elemOk, sizesOk, basicDeclared]

/-- for the other kinds `typeOk` unfolds to `unionOk`, `enumOk`, `typedefOk` -/
theorem typeOk_struct {a : Ast} {s : Struct} (h : typeOk a (.struct s) = true) : s.fields ≠ [] ∧ s.fields.all (fieldOk a) = true := by
  simp only [typeOk, Bool.and_eq_true, Bool.not_eq_true', List.isEmpty_eq_false_iff] at h
  exact h

theorem basicDeclared_of_elemOk {a : Ast} {at_ : ArrayType} (h : elemOk a at_ = true) : basicDeclared a at_.unwrapArray = true := by
  rcases at_ with t | ⟨t, sz⟩ | ⟨t, mx⟩ <;> cases t <;> first | exact h | rfl | cases h

theorem fieldOk_facts {a : Ast} {f : StructField} (h : fieldOk a f = true) :
    f.fieldName ≠ "TRUE" ∧ f.fieldName ≠ "FALSE" ∧
    ((f.isOptional = true ∧ ∃ n, f.fieldValue = .none (.ident n) ∧ declared a n = true) ∨
     (f.isOptional = false ∧ declaratorOk a f.fieldValue = true)) := by
  simp only [fieldOk, Bool.and_eq_true, bne_iff_ne, ne_eq] at h
  refine ⟨h.1.1, h.1.2, ?_⟩
  have h2 := h.2
  split at h2
  · rename_i hopt
    split at h2
    · rename_i n hfv
      exact .inl ⟨hopt, n, hfv, h2⟩
    · cases h2
  · rename_i hopt
    exact .inr ⟨by simpa using hopt, h2⟩

theorem elemOk_of_fieldOk {a : Ast} {f : StructField} (h : fieldOk a f = true) : elemOk a f.fieldValue = true := by
  rcases (fieldOk_facts h).2.2 with ⟨_, n, hfv, hd⟩ | ⟨_, hdecl⟩
  · rw [hfv]
    exact hd
  · exact (declaratorOk_iff.mp hdecl).1

/-- the declarator a typedef stands for -/
def wrapAlias (td : Typedef) : ArrayType :=
  match td.alias with
  | .none _ => .none td.target
  | .fixed _ sz => .fixed td.target sz
  | .variable _ m => .variable td.target m

theorem wrapAlias_unwrap (td : Typedef) : (wrapAlias td).unwrapArray = td.target := by
  unfold wrapAlias
  split <;> rfl

/-- unlike `declaratorOk`, a bracket-less `opaque` is allowed here; a `string` target is not -/
theorem typedefOk_facts {a : Ast} {td : Typedef} (h : typedefOk a td = true) :
    (∃ al, td.alias.unwrapArray = .ident al ∧ al ≠ td.target.asStr) ∧ td.target ≠ .string ∧
    elemOk a (wrapAlias td) = true ∧ sizesOk a (wrapAlias td) = true := by
  obtain ⟨target, alias⟩ := td
  simp only [typedefOk, Bool.and_eq_true] at h
  obtain ⟨h1, h2⟩ := h
  refine ⟨?_, ?_, ?_, ?_⟩
  · cases hu : alias.unwrapArray with
    | ident al => exact ⟨al, rfl, by simpa [hu] using h1⟩
    | _ =>
      rw [hu] at h1
      cases h1
  · rintro rfl
    cases alias <;> cases h2
  · cases alias <;> cases target <;> first | rfl | exact h2 | cases h2 | exact (Bool.and_eq_true_iff.mp h2).1
  · -- row by row of `typedefOk`: no bound, or the row says `boundOk` / `optBoundOk` of it, or the row is `false`
    split at h2 <;> first | rfl | exact h2 | cases h2 | exact (Bool.and_eq_true_iff.mp h2).2

theorem enumOk_facts {e : Enum} (h : enumOk e = true) :
    e.variants ≠ [] ∧ (e.variants.map (·.name)).Nodup ∧
    (∀ v ∈ e.variants, ∃ i, v.value = .numeric i ∧ 0 ≤ i ∧ i < 2^31) ∧ (e.variants.map variantNat).Nodup := by
  simp only [enumOk, Bool.and_eq_true, Bool.not_eq_true', List.isEmpty_eq_false_iff, decide_eq_true_eq, List.all_eq_true] at h
  obtain ⟨⟨⟨h1, h2⟩, h3⟩, h4⟩ := h
  refine ⟨h1, h2, fun v hv => ?_, h4⟩
  have := h3 v hv
  cases hval : v.value with
  | str s => simp [hval] at this
  | numeric i => exact ⟨i, rfl, by simpa [hval] using this⟩

theorem enumMemberValue_numeric (a : Ast) {v : Variant} {i : Int} (hv : v.value = .numeric i) (h0 : 0 ≤ i) :
    enumMemberValue a v = some i.toNat := by
  simp only [enumMemberValue, hv, Int.not_lt.mpr h0, if_false]

theorem armTypeOk_iff {a : Ast} {fv : ArrayType} :
    armTypeOk a fv = true ↔ ∃ t, fv = .none t ∧ t ≠ .opaque ∧ basicDeclared a t = true := by
  unfold armTypeOk
  split
  · simp
  · simp_all
  · simp_all

theorem elemOk_of_armTypeOk {a : Ast} {at_ : ArrayType} (h : armTypeOk a at_ = true) : elemOk a at_ = true := by
  obtain ⟨t, rfl, _, hd⟩ := armTypeOk_iff.mp h
  exact hd

theorem allLabels_mem_case {u : Union} {c : UnionCase} (hc : c ∈ u.cases) {l : String} (hl : l ∈ c.caseValues) : l ∈ allLabels u := by
  simp only [allLabels, List.mem_append, List.mem_flatten, List.mem_map]
  exact Or.inl (Or.inl ⟨c.caseValues, ⟨c, hc, rfl⟩, hl⟩)

theorem allLabels_mem_void {u : Union} {l : String} (hl : l ∈ u.voidCases) (hne : l ≠ "default") : l ∈ allLabels u := by
  simp only [allLabels, List.mem_append, List.mem_filter, bne_iff_ne, ne_eq]
  exact Or.inl (Or.inr ⟨hl, hne⟩)

/-- left out, because no proof uses them: `distinctNats` of the label values, `!c.caseValues.isEmpty`, and that the default
    arm lists `default` among its labels -/
theorem unionOk_facts {a : Ast} {u : Union} (h : unionOk a u = true) :
    discKind a u.switch.varType ≠ .unsupported ∧
    (∀ c ∈ u.cases, armTypeOk a c.fieldValue = true) ∧
    (∀ d, u.default = some d → armTypeOk a d.fieldValue = true ∧ u.voidCases.contains "default" = false) ∧
    (∀ l ∈ allLabels u, labelKindOk a (discKind a u.switch.varType) l = true) ∧
    "default" ∉ u.voidCases.dropLast := by
  simp only [unionOk, Bool.and_eq_true, List.all_eq_true] at h
  obtain ⟨⟨⟨⟨⟨hk, hc⟩, hd⟩, hl⟩, _⟩, hv⟩ := h
  refine ⟨fun e => by simp [e] at hk, fun c hm => (hc c hm).1, fun d hdf => ?_, hl, fun hm => ?_⟩
  · simp only [hdf, Bool.and_eq_true, Bool.not_eq_true'] at hd
    exact hd.1
  · split at hv
    · rename_i e
      rw [List.reverse_eq_nil_iff.mp e] at hm
      cases hm
    · rename_i x rest e
      rw [List.reverse_eq_cons_iff.mp e, List.dropLast_concat, List.mem_reverse] at hm
      simp [hm] at hv

theorem variantsDistinctU_iff {a : Ast} {u : Union} :
    variantsDistinctU a u = true ↔ ((unionVariants a u).map fun x => nonDigitName x.1).Nodup := by
  simp only [variantsDistinctU, decide_eq_true_eq]

theorem labelKindOk_ne_default {a : Ast} {k : DiscKind} {l : String} (h : labelKindOk a k l = true) : l ≠ "default" := by
  simp only [labelKindOk, Bool.and_eq_true, bne_iff_ne, ne_eq] at h
  exact h.1

theorem unionOk_labels_ne_default {a : Ast} {u : Union} (hu : unionOk a u = true) :
    (∀ c ∈ u.cases, ∀ l ∈ c.caseValues, l ≠ "default") := fun _ hc l hl =>
  labelKindOk_ne_default ((unionOk_facts hu).2.2.2.1 l (allLabels_mem_case hc hl))

theorem labelKindOk_u32 {a : Ast} {l : String} (h : labelKindOk a .u32 l = true) :
    ∃ v, labelValue a l = some v ∧ l ≠ "TRUE" ∧ l ≠ "FALSE" ∧ safeName l = l := by
  simp only [labelKindOk, Bool.and_eq_true, bne_iff_ne, ne_eq, beq_iff_eq] at h
  obtain ⟨v, hv⟩ := Option.isSome_iff_exists.mp h.2.1.1.1
  exact ⟨v, hv, h.2.1.1.2, h.2.1.2, h.2.2⟩

theorem labelKindOk_i32 {a : Ast} {l : String} (h : labelKindOk a .i32 l = true) :
    ∃ v, labelValue a l = some v ∧ v < 2^31 ∧ l ≠ "TRUE" ∧ l ≠ "FALSE" ∧ safeName l = l := by
  simp only [labelKindOk, Bool.and_eq_true, bne_iff_ne, ne_eq, beq_iff_eq] at h
  cases hv : labelValue a l with
  | none => simp [hv] at h
  | some v => exact ⟨v, rfl, by simpa [hv] using h.2.1.1.1, h.2.1.1.2, h.2.1.2, h.2.2⟩

theorem labelKindOk_bool {a : Ast} {l : String} (h : labelKindOk a .bool l = true) : l = "TRUE" ∨ l = "FALSE" := by
  simp only [labelKindOk, Bool.and_eq_true, Bool.or_eq_true, beq_iff_eq] at h
  exact h.2

theorem labelKindOk_enum {a : Ast} {e : Enum} {l : String} (h : labelKindOk a (.enum e) l = true) :
    e.variants.any (·.name == l) = true := by
  simp only [labelKindOk, Bool.and_eq_true] at h
  exact h.2

theorem labelsTypedU_u32 {a : Ast} {u : Union} (hk : discKind a u.switch.varType = .u32) (h : labelsTypedU a u = true) {l : String}
    (hl : l ∈ allLabels u) {v : Nat} (hv : labelValue a l = some v) :
    v < 2^32 ∧ (isEnumConst a l = true → (switchCastType a u.switch.varType).asSafeString = "u32") := by
  simp only [labelsTypedU, hk, List.all_eq_true, Bool.and_eq_true, Bool.or_eq_true, Bool.not_eq_true', beq_iff_eq] at h
  have h2 := h l hl
  simp only [hv, decide_eq_true_eq] at h2
  exact ⟨h2.1, fun he => h2.2.resolve_left (by simp [he])⟩

theorem labelsTypedU_i32 {a : Ast} {u : Union} (hk : discKind a u.switch.varType = .i32) (h : labelsTypedU a u = true) {l : String}
    (hl : l ∈ allLabels u) : isEnumConst a l = true → (switchCastType a u.switch.varType).asSafeString = "i32" := by
  simp only [labelsTypedU, hk, List.all_eq_true, Bool.or_eq_true, Bool.not_eq_true', beq_iff_eq] at h
  exact fun he => (h l hl).resolve_left (by simp [he])

end Fx
