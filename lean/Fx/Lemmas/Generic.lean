/-
  Fx.Lemmas.Generic — the pass-until-stable loop of `GenericIndex::new` computes
  exactly the names from which an `opaque` is reachable, and stops at a fixpoint of the pass.
-/
import Fx.Lemmas.Bins
namespace Fx

/-- opaque-reachability over what `recurse` looks at -/
inductive Reach (items : List GItem) : String → Prop
  | own {it} : it ∈ items → it.own = true → Reach items it.name
  | ref {it r} : it ∈ items → r ∈ it.refs → Reach items r → Reach items it.name

def gnames (items : List GItem) : List String := items.map (·.name)

theorem Reach.name {gs : List GItem} {n : String} (h : Reach gs n) : n ∈ gnames gs := by
  cases h with
  | own hm _ => exact List.mem_map_of_mem hm
  | ref hm _ _ => exact List.mem_map_of_mem hm

theorem Reach.mono {gs gs' : List GItem} (hsub : ∀ it ∈ gs, it ∈ gs') {n} (h : Reach gs n) : Reach gs' n := by
  induction h with
  | own hm ho => exact .own (hsub _ hm) ho
  | ref hm hr _ ih => exact .ref (hsub _ hm) hr ih

theorem GItem.hit_iff {idx : List String} {it : GItem} : it.hit idx = true ↔ it.own = true ∨ ∃ r ∈ it.refs, r ∈ idx := by
  simp only [GItem.hit, Bool.or_eq_true, List.any_eq_true, List.contains_iff_mem]

theorem gstep_cases (idx : List String) (it : GItem) :
    (gstep idx it = idx ∧ (it.hit idx = true → it.name ∈ idx)) ∨
      (gstep idx it = it.name :: idx ∧ it.name ∉ idx ∧ it.hit idx = true) := by
  unfold gstep
  split
  · rename_i hc
    exact .inl ⟨rfl, fun _ => by simpa using hc⟩
  · rename_i hc
    split
    · rename_i hh
      exact .inr ⟨rfl, by simpa using hc, hh⟩
    · rename_i hh
      exact .inl ⟨rfl, fun h => absurd h hh⟩

/-- `Nodup`: never more names than declarations (`gloop_fix`) -/
def GInv (items : List GItem) (idx : List String) : Prop := (∀ n ∈ idx, Reach items n) ∧ idx.Nodup

theorem gstep_inv {items idx it} (hm : it ∈ items) (h : GInv items idx) : GInv items (gstep idx it) := by
  rcases gstep_cases idx it with ⟨e, _⟩ | ⟨e, hn, hh⟩ <;> rw [e]
  · exact h
  · refine ⟨List.forall_mem_cons.mpr ⟨?_, h.1⟩, List.nodup_cons.mpr ⟨hn, h.2⟩⟩
    rcases GItem.hit_iff.mp hh with ho | ⟨r, hr, hri⟩
    · exact .own hm ho
    · exact .ref hm hr (h.1 r hri)

theorem gpass_inv {items idx} (h : GInv items idx) : GInv items (gpass items idx) :=
  List.foldlRecOn items gstep h fun _ hb _ hm => gstep_inv hm hb

theorem gloop_inv {items} (fuel : Nat) {idx} (h : GInv items idx) : GInv items (gloop fuel items idx) := by
  induction fuel generalizing idx with
  | zero => exact h
  | succ f ih =>
    rw [gloop]
    split
    · exact gpass_inv h
    · exact ih (gpass_inv h)

theorem gpass_length_ge (items : List GItem) (idx : List String) : idx.length ≤ (gpass items idx).length :=
  List.foldlRecOn (motive := fun r => idx.length ≤ r.length) items gstep (Nat.le_refl _) fun b h a _ => by
    rcases gstep_cases b a with ⟨e, _⟩ | ⟨e, _⟩ <;> rw [e]
    · exact h
    · exact Nat.le_succ_of_le h

theorem gpass_cons (a : GItem) (rest : List GItem) (idx : List String) : gpass (a :: rest) idx = gpass rest (gstep idx a) := rfl

theorem gpass_eq_self {items : List GItem} {idx : List String} (h : ∀ it ∈ items, gstep idx it = idx) :
    gpass items idx = idx := by
  induction items with
  | nil => rfl
  | cons a rest ih =>
    rw [gpass_cons, h a List.mem_cons_self]
    exact ih fun it hit => h it (List.mem_cons_of_mem _ hit)

theorem gstep_eq_of_length {items : List GItem} {idx : List String} (h : (gpass items idx).length = idx.length) :
    ∀ it ∈ items, gstep idx it = idx := by
  induction items with
  | nil => nofun
  | cons a rest ih =>
    rw [gpass_cons] at h
    have hge := gpass_length_ge rest (gstep idx a)
    have h2 : gstep idx a = idx := by
      rcases gstep_cases idx a with ⟨e, _⟩ | ⟨e, _⟩
      · exact e
      · rw [e, List.length_cons] at hge
        rw [e] at h
        omega
    rw [h2] at h
    exact List.forall_mem_cons.mpr ⟨h2, ih h⟩

theorem gpass_eq_of_length {items idx} (h : (gpass items idx).length = idx.length) : gpass items idx = idx :=
  gpass_eq_self (gstep_eq_of_length h)

theorem gloop_stable {items} (fuel : Nat) (idx) (hc : (gpass items idx).length = idx.length) :
    gloop (fuel + 1) items idx = idx := by
  simp only [gloop, hc, if_true]
  exact gpass_eq_of_length hc

/-- `items.length + 1` passes suffice: a duplicate-free list of declared names cannot outgrow the declarations, so the budget is
    not spent (case `zero` is contradictory) and the loop leaves by its exit test, at a fixpoint of the pass -/
theorem gloop_fix {items} (fuel : Nat) {idx} (h : GInv items idx) (hf : items.length < idx.length + fuel) :
    gpass items (gloop fuel items idx) = gloop fuel items idx := by
  induction fuel generalizing idx with
  | zero =>
    have := h.2.length_le_of_subset (fun n hn => (h.1 n hn).name)
    rw [gnames, List.length_map] at this
    omega
  | succ f ih =>
    rw [gloop]
    split
    · rename_i heq
      rw [gpass_eq_of_length heq, gpass_eq_of_length heq]
    · have := gpass_length_ge items idx
      exact ih (gpass_inv h) (by omega)

theorem genericIndexOf_inv (items : List GItem) : GInv items (genericIndexOf items) := gloop_inv _ ⟨nofun, .nil⟩

theorem genericIndexOf_fix (items : List GItem) : gpass items (genericIndexOf items) = genericIndexOf items :=
  gloop_fix _ ⟨nofun, .nil⟩ (by simp)

theorem genericIndexOf_closed (items : List GItem) {it} (hm : it ∈ items) (hh : it.hit (genericIndexOf items) = true) :
    it.name ∈ genericIndexOf items := by
  have hfix := gstep_eq_of_length (congrArg List.length (genericIndexOf_fix items)) it hm
  rcases gstep_cases (genericIndexOf items) it with ⟨_, h⟩ | ⟨e, _⟩
  · exact h hh
  · exact absurd (e.symm.trans hfix) (List.cons_ne_self _ _)

theorem mem_genericIndexOf_iff (items : List GItem) (n : String) : n ∈ genericIndexOf items ↔ Reach items n := by
  refine ⟨(genericIndexOf_inv items).1 n, fun h => ?_⟩
  induction h with
  | own hm ho => exact genericIndexOf_closed items hm (GItem.hit_iff.mpr (.inl ho))
  | ref hm hr _ ih => exact genericIndexOf_closed items hm (GItem.hit_iff.mpr (.inr ⟨_, hr, ih⟩))

theorem eq_of_name_eq {gs : List GItem} (hnd : (gnames gs).Nodup) {a b : GItem} (ha : a ∈ gs) (hb : b ∈ gs)
    (hab : a.name = b.name) : a = b :=
  have key := fun {v} => List.find?_key GItem.name hnd (k := b.name) (v := v)
  Option.some.inj ((key.mpr ⟨ha, hab⟩).symm.trans (key.mpr ⟨hb, rfl⟩))

theorem mem_genericIndexOf_iff_hit (gs : List GItem) (hnd : (gnames gs).Nodup) (it : GItem) (hm : it ∈ gs) :
    it.name ∈ genericIndexOf gs ↔ it.hit (genericIndexOf gs) = true := by
  refine ⟨fun h => ?_, genericIndexOf_closed gs hm⟩
  have hr := (mem_genericIndexOf_iff gs _).mp h
  generalize hn : it.name = n at hr
  rw [GItem.hit_iff]
  cases hr with
  | @own it' hm' ho =>
    cases eq_of_name_eq hnd hm' hm hn.symm
    exact .inl ho
  | @ref it' r hm' hr' hreach =>
    cases eq_of_name_eq hnd hm' hm hn.symm
    exact .inr ⟨r, hr', (mem_genericIndexOf_iff gs r).mpr hreach⟩

end Fx
