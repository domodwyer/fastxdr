/-
  Fx.Lemmas.ParseField — type references (the eight built-in spellings with any white space), array suffixes and
  declarators: the grammar regenerated from `src/xdr.pest` accepts their text (Lemmas/ParseSyntax) with the expected tokens.
-/
import Fx.Lemmas.ParseAcc
namespace Fx.Parse
open Fx.Peg

def Heads (ks : List (List Char)) : Prop := (ks.map List.head?).Nodup ∧ [] ∉ ks

instance (ks : List (List Char)) : Decidable (Heads ks) := inferInstanceAs (Decidable (_ ∧ _))

theorem Heads.tail {k : List Char} {ks : List (List Char)} (h : Heads (k :: ks)) : Heads ks :=
  ⟨(List.nodup_cons.mp h.1).2, fun e => h.2 (List.mem_cons_of_mem _ e)⟩

theorem str_miss {a : Bool} {k0 k : List Char} {ks : List (List Char)} (h : Heads (k0 :: ks)) (hk : k ∈ ks) (p : Nat)
    (r : List Char) : EFail X a (.str k0) ⟨p, k ++ r⟩ := by
  have hd : k0.head? ≠ k.head? := fun e => (List.nodup_cons.mp h.1).1 (e ▸ List.mem_map_of_mem hk)
  cases k0 with
  | nil => exact absurd List.mem_cons_self h.2
  | cons c cs =>
    cases k with
    | nil => exact absurd (List.mem_cons_of_mem _ hk) h.2
    | cons d ds => exact EFail.str (matchStr_head_ne (fun e => hd (by simpa using e.symm)))

theorem altWords_fail {a : Bool} {k : List Char} (p : Nat) (r : List Char) : ∀ (ks : List (List Char)), ks ≠ [] →
    (∀ k0 ∈ ks, Heads [k0, k]) → EFail X a (altWords ks) ⟨p, k ++ r⟩
  | [], h, _ => absurd rfl h
  | [k0], _, h => str_miss (h k0 (by simp)) (by simp) p r
  | k0 :: k' :: ks, _, h =>
    EFail.alt (str_miss (h k0 (by simp)) (by simp) p r) (altWords_fail p r (k' :: ks) (by simp) (fun w hw => h w (by simp [hw])))

theorem altWords_ok {a : Bool} {k : List Char} (p : Nat) (r : List Char) : ∀ (ks : List (List Char)), Heads ks → k ∈ ks →
    EOk X a (altWords ks) ⟨p, k ++ r⟩ ⟨p + k.length, r⟩ []
  | [], _, h => by simp at h
  | [k0], _, h => by
    obtain rfl : k = k0 := by simpa using h
    exact EOk.str (matchStr_self k r p)
  | k0 :: k' :: ks, hh, h => by
    rcases List.mem_cons.mp h with rfl | h
    · exact EOk.alt1 (EOk.str (matchStr_self k r p))
    · exact EOk.alt2 (str_miss hh h p r) (altWords_ok p r (k' :: ks) hh.tail h)

section
variable {t r : List Char} (ht : wsRun t = true) (hr : NoWsStart r)
include ht hr

theorem bt_tail {ks : List (List Char)} {k : List Char} (hh : Heads ks) (hk : k ∈ ks) (p : Nat) :
    EOk X true (.seq (altWords ks) eWsP) ⟨p, k ++ (t ++ r)⟩ ⟨p + k.length + t.length, r⟩ [] :=
  EOk.seqA (altWords_ok p _ ks hh hk) (wsPlus (wsRun_iff.mp ht).1 (wsRun_iff.mp ht).2 hr)

omit ht hr in
theorem bt_noUns {k : List Char} (hk : Heads [kwUnsigned, k]) (p : Nat) (x : List Char) : EOk X true eUns ⟨p, k ++ x⟩ ⟨p, k ++ x⟩ [] :=
  EOk.opt_none (EFail.seq1 (str_miss hk (by simp) p x))

theorem bt_signed {k : List Char} (hk : k ∈ intWords) (hu : Heads [kwUnsigned, k]) (p : Nat) :
    EOk X true eBasicType
      ⟨p, (k ++ t) ++ r⟩ ⟨p + (k ++ t).length, r⟩ [] := by
  have : EOk X true eBasicType _ _ _ := EOk.alt1 (EOk.seqA (bt_noUns hu p _) (bt_tail ht hr (by decide) hk p))
  refine EOk.cast (by simpa using this) ?_ rfl
  simp
  omega

theorem bt_unsigned {w k : List Char} (hw : wsRun w = true) (hk : k ∈ intWords) (hs : NoWsStart (k ++ (t ++ r))) (p : Nat) :
    EOk X true eBasicType
      ⟨p, ((kwUnsigned ++ (w ++ k)) ++ t) ++ r⟩ ⟨p + ((kwUnsigned ++ (w ++ k)) ++ t).length, r⟩ [] := by
  have hU : EOk X true eUns ⟨p, kwUnsigned ++ (w ++ (k ++ (t ++ r)))⟩ ⟨p + kwUnsigned.length + w.length, k ++ (t ++ r)⟩ ([] ++ []) :=
    EOk.opt_some (EOk.seqA (EOk.str (matchStr_self kwUnsigned _ p)) (wsPlus (wsRun_iff.mp hw).1 (wsRun_iff.mp hw).2 hs))
  have : EOk X true eBasicType _ _ _ := EOk.alt1 (EOk.seqA hU (bt_tail ht hr (by decide) hk _))
  refine EOk.cast (by simpa [List.append_assoc] using this) ?_ rfl
  simp
  omega

/-- the first alternative fails on the word -/
theorem bt_other {k : List Char} (hk : k ∈ otherWords) (hu : Heads [kwUnsigned, k]) (hi : ∀ k0 ∈ intWords, Heads [k0, k]) (p : Nat) :
    EOk X true eBasicType
      ⟨p, (k ++ t) ++ r⟩ ⟨p + (k ++ t).length, r⟩ [] := by
  have : EOk X true eBasicType _ _ _ := EOk.alt2 (EFail.seq2A (bt_noUns hu p _) (EFail.seq1 (b := eWsP) (altWords_fail p _ intWords (by decide) hi)))
    (bt_tail ht hr (by decide) hk p)
  refine EOk.cast (by simpa using this) ?_ rfl
  simp
  omega
end

theorem bt_body_ok (pr : Prim) (t : List Char) (hp : pr.ok = true) (ht : wsRun t = true) (p : Nat) (r : List Char) (hr : NoWsStart r) :
    EOk X true eBasicType
      ⟨p, (pr.words ++ t) ++ r⟩ ⟨p + (pr.words ++ t).length, r⟩ [] := by
  cases pr with
  | int => exact bt_signed ht hr (by decide) (by decide) p
  | hyper => exact bt_signed ht hr (by decide) (by decide) p
  | uint w => exact bt_unsigned ht hr (k := ['i', 'n', 't']) hp (by decide) (Ahead.cons (c := 'i') (by decide)) p
  | uhyper w => exact bt_unsigned ht hr (k := ['h', 'y', 'p', 'e', 'r']) hp (by decide) (Ahead.cons (c := 'h') (by decide)) p
  | float => exact bt_other ht hr (by decide) (by decide) (by decide) p
  | double => exact bt_other ht hr (by decide) (by decide) (by decide) p
  | string => exact bt_other ht hr (by decide) (by decide) (by decide) p
  | «opaque» => exact bt_other ht hr (by decide) (by decide) (by decide) p

/-- a built-in word's token holds all the white space after it -/
def TyRef.After : TyRef → List Char → Prop
  | .named _, r => NoIdentStart r
  | .prim _ _, r => NoWsStart r

theorem TyRef.after_of_sep {t : TyRef} {L : Layout} {sym : Bool} {x : List Char} (hL : L.ok = true) (h : t.Sep L sym)
    (hsym : sym = true → NoIdentStart x) (hx : NoWsStart x) : t.After (L.text ++ x) := by
  cases t with
  | named n =>
    rcases h with h | h
    · exact noIdent_layout hL (hsym h)
    · exact noIdent_layout_ne hL h
  | prim pr tr => exact noWs_layout h hx

theorem Acc.tyref (t : TyRef) (h : t.ok = true) : Acc eTy t.text t.tokens t.After := by
  cases t with
  | named n => exact Acc.alt1 (Acc.ident h)
  | prim pr tr =>
    obtain ⟨hpr, htr⟩ := TyRef.prim_ok h
    intro p r hr
    have hb := bt_body_ok pr tr hpr htr p r hr
    -- `ident` starts with `!basic_type`, and `basic_type` matches here
    have hbA : ROk X true "basic_type" ⟨p, (pr.words ++ tr) ++ r⟩ ⟨p + (pr.words ++ tr).length, r⟩ [] := has_basic_type.okAtA hb
    have hid : RFail X false "ident" ⟨p, (pr.words ++ tr) ++ r⟩ :=
      has_ident.failAt (EFail.seq1 (EFail.not (EOk.ref hbA)))
    have hbT := has_basic_type.okAt hb
    rw [consumed_app] at hbT
    exact EOk.alt2 (EFail.ref hid) (EOk.ref hbT)

theorem tokStart_lit {l : Lit} (h : l.ok = true) : TokStart l.text := by
  cases l with
  | num d =>
    obtain ⟨hne, hd⟩ := Lit.num_ok h
    cases d with
    | nil => exact absurd rfl hne
    | cons c cs => exact tokStart_identChar (digit_ident (List.all_eq_true.mp hd c List.mem_cons_self))
  | name n => exact tokStart_ident (Lit.name_ok h).1

theorem tokStart_tyref {t : TyRef} (h : t.ok = true) : TokStart t.text := by
  cases t with
  | named n => exact tokStart_ident h
  | prim pr tr => cases pr <;> exact (tokStart_identChar rfl).app

theorem Rej.lit : Rej (.alt (.ref "ident_value") (.ref "ident_const")) NoIdentStart :=
  Rej.alt (fun _ _ hr => EFail.ref (value_fail hr.digit)) (Rej.rule has_ident_const Rej.ident)

theorem Acc.arr (a : Arr) (h : a.ok = true) : Acc (.ref "array") a.text a.tokens (fun _ => True) := by
  cases a with
  | var l1 len =>
    obtain ⟨hl1, hlen⟩ := Arr.var_ok h
    refine Acc.ruleS has_array (Acc.alt1 ?_)
    cases len with
    | none =>
      have inner : Acc (.seq (.opt (.ref "array_length")) (.str ['>'])) ([] ++ ['>']) ([] ++ []) (fun _ => True) :=
        Acc.seq0 (C1 := Starts '>') (Acc.opt_none (Rej.rule has_array_length (Rej.lit.mono (fun r hr => Starts.ahead hr (by decide)))))
          (Acc.str ['>']) (hafter := fun _ _ => rfl) (hstart := fun _ _ => Starts.ahead (c := '>') rfl ⟨by decide, by decide⟩)
      have := Acc.rule has_array_variable ((Acc.str ['<']).then l1 hl1 inner tokStart_cons)
      exact this.castT (by simp [Arr.text]) (by simp [Arr.tokens, Arr.text])
    | some bl =>
      obtain ⟨n, l2⟩ := bl
      obtain ⟨hn, hl2⟩ := hlen (n, l2) rfl
      have inner : Acc (.seq (.opt (.ref "array_length")) (.str ['>'])) (n.text ++ (l2.text ++ ['>'])) (n.tokens ++ []) (fun _ => True) :=
        (Acc.opt_some (Acc.ruleS has_array_length (Acc.lit n hn))).thenSym l2 hl2 (Acc.str ['>'])
          symStart_cons
      have := Acc.rule has_array_variable ((Acc.str ['<']).then l1 hl1 inner (tokStart_lit hn).app)
      exact this.castT (by simp [Arr.text]) (by simp [Arr.tokens, Arr.text])
  | fixed l1 n l2 =>
    obtain ⟨hl1, hn, hl2⟩ := Arr.fixed_ok h
    refine Acc.ruleS has_array (Acc.alt2 (C' := Starts '[') ((Rej.kw has_array_variable).mono fun _ h => h.notStarts (by decide)) ?_
      (fun r _ => by simp [Arr.text, Starts]))
    have inner : Acc (.seq (.ref "array_length") (.str [']'])) (n.text ++ (l2.text ++ [']'])) (n.tokens ++ []) (fun _ => True) :=
      (Acc.ruleS has_array_length (Acc.lit n hn)).thenSym l2 hl2 (Acc.str [']']) symStart_cons
    have := Acc.rule has_array_fixed ((Acc.str ['[']).then l1 hl1 inner (tokStart_lit hn).app)
    exact this.castT (by simp [Arr.text]) (by simp [Arr.tokens, Arr.text])

theorem Rej.arr {c : Char} (h1 : c ≠ '<') (h2 : c ≠ '[') : Rej (.ref "array") (Starts c) :=
  Rej.rule has_array (Rej.alt ((Rej.kw has_array_variable).mono fun _ h => h.notStarts h1) ((Rej.kw has_array_fixed).mono fun _ h => h.notStarts h2))

theorem symStart_arrSemi (a : Option (Arr × Layout)) : SymStart (arrSemi a) := by
  cases a with
  | none => exact symStart_cons
  | some al =>
    obtain ⟨a, l3⟩ := al
    cases a with
    | var l1 len => cases len <;> exact symStart_cons (c := '<')
    | fixed l1 n l2 => exact symStart_cons (c := '[')

theorem Acc.optArrSemi (a : Option (Arr × Layout)) (h : ∀ al ∈ a, al.1.ok = true ∧ al.2.ok = true) :
    Acc eArrSemi (arrSemi a) (arrToks a) (fun _ => True) := by
  cases a with
  | none =>
    have := Acc.seq0 (C1 := Starts ';') (Acc.opt_none (Rej.arr (c := ';') (by decide) (by decide))) (Acc.str [';'])
      (hafter := fun _ _ => rfl) (hstart := fun _ _ => Starts.ahead (c := ';') rfl ⟨by decide, by decide⟩)
    exact this.castT (by simp [arrSemi]) (by simp [arrToks])
  | some al =>
    obtain ⟨ha, hl3⟩ := h al rfl
    have := (Acc.opt_some (Acc.arr al.1 ha)).then al.2 hl3 (Acc.str [';']) tokStart_cons
    exact this.castT (by simp [arrSemi]) (by simp [arrToks])

theorem Acc.nameTok (f : Field) (hn : validIdent f.name = true) (hs : ∀ ls ∈ f.star, ls.ok = true) :
    Acc eName f.nameText f.nameToks NoIdentStart := by
  cases hst : f.star with
  | none =>
    simp only [Field.nameText, Field.nameToks, hst]
    exact Acc.alt2 (Rej.kw has_option) (Acc.ident hn) fun r _ => notStarts_ident hn (by decide) r
  | some ls =>
    simp only [Field.nameText, Field.nameToks, hst]
    refine Acc.alt1 (Acc.rule has_option ?_)
    have := (Acc.str ['*']).then ls (hs ls hst) (Acc.ident hn) (tokStart_ident hn)
    exact this.castT rfl (by simp)

theorem tokStart_nameText {f : Field} (hn : validIdent f.name = true) : TokStart f.nameText := by
  rw [Field.nameText]
  cases f.star with
  | none => exact tokStart_ident hn
  | some ls => exact tokStart_cons

/-- `eNm`: `eName` in a declarator, `ident` in a typedef -/
theorem field_core (f : Field) (h : f.ok = true) (eNm : Expr) (hB : Acc eNm f.nameText f.nameToks NoIdentStart) :
    Acc (.seq eTy (.seq eNm eArrSemi)) f.text f.tokens (fun _ => True) := by
  have ok := Field.of_ok h
  have hBC := hB.thenSym f.l2 ok.l2 (Acc.optArrSemi f.arr ok.arr) (symStart_arrSemi f.arr)
  have hts : TokStart (f.nameText ++ (f.l2.text ++ arrSemi f.arr)) := (tokStart_nameText ok.name).app
  refine (Acc.tyref f.ty ok.ty).seq f.l1 ok.l1 hBC (hafter := fun r _ => ?_) (hstart := fun _ _ => hts.noLayout)
  refine TyRef.after_of_sep ok.l1 ok.sep (fun hsym => ?_) hts.noLayout.ws
  -- an optional field: the name part begins with `*`
  obtain ⟨ls, hst⟩ := Option.isSome_iff_exists.mp hsym
  rw [show f.nameText = '*' :: (ls.text ++ f.name) by rw [Field.nameText, hst]; rfl]
  exact Ahead.cons (by decide)

theorem Acc.field (f : Field) (h : f.ok = true) : Acc (.ref "data_field") f.text f.tokens (fun _ => True) :=
  Acc.ruleS has_data_field (field_core f h _ (Acc.nameTok f (Field.of_ok h).name (Field.of_ok h).star))

theorem Rej.basicType : Rej (.ref "basic_type") NoIdentStart :=
  fun _ _ hr => EFail.ref (basic_type_fail (n := []) rfl hr (by decide))

theorem Rej.dataField : Rej (.ref "data_field") NoIdentStart :=
  Rej.rule has_data_field (Rej.seq1 (Rej.alt Rej.ident Rej.basicType))

theorem tokStart_field {f : Field} (h : f.ok = true) : TokStart f.text := (tokStart_tyref (Field.of_ok h).ty).app

end Fx.Parse
