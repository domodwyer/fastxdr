/-
  Fx.Lemmas.Out — the laws of the front end's `Out.bind` and `mapOut`.
-/
import Fx.Walk
namespace Fx

theorem Out.bind_eq_ok {α β} {o : Out α} {f : α → Out β} {b : β} (h : o.bind f = .ok b) :
    ∃ a, o = .ok a ∧ f a = .ok b := by
  cases o with
  | ok a => exact ⟨a, rfl, h⟩
  | panicAt => cases h

theorem Out.bind_assoc {α β γ} (o : Out α) (f : α → Out β) (g : β → Out γ) :
    (o.bind f).bind g = o.bind fun a => (f a).bind g := by
  cases o <;> rfl

theorem Out.bind_ok_right {α} (o : Out α) : (o.bind fun a => .ok a) = o := by
  cases o <;> rfl

theorem Out.isOk_iff {α} {o : Out α} : o.isOk = true ↔ ∃ a, o = .ok a := by
  cases o with
  | ok a => exact ⟨fun _ => ⟨a, rfl⟩, fun _ => rfl⟩
  | panicAt f m => exact ⟨nofun, nofun⟩

theorem mapOut_append {α β} (f : α → Out β) (l1 l2 : List α) :
    mapOut f (l1 ++ l2) = (mapOut f l1).bind fun b1 => (mapOut f l2).bind fun b2 => .ok (b1 ++ b2) := by
  induction l1 with
  | nil => simp only [List.nil_append, mapOut, Out.bind_ok, Out.bind_ok_right]
  | cons a as ih => simp only [List.cons_append, mapOut, ih, Out.bind_assoc, Out.bind_ok]

theorem mapOut_ok {α β} {f : α → β} {l : List α} : mapOut (fun x => Out.ok (f x)) l = .ok (l.map f) := by
  induction l with
  | nil => rfl
  | cons x xs ih => simp only [mapOut, ih, Out.bind_ok, List.map_cons]

theorem mapOut_isOk {α β} {f : α → Out β} {l : List α} (h : ∀ x ∈ l, (f x).isOk = true) : (mapOut f l).isOk = true := by
  induction l with
  | nil => rfl
  | cons x xs ih =>
    obtain ⟨b, hb⟩ := Out.isOk_iff.mp (h x List.mem_cons_self)
    obtain ⟨bs, hbs⟩ := Out.isOk_iff.mp (ih fun y hy => h y (List.mem_cons_of_mem _ hy))
    simp only [mapOut, hb, hbs, Out.bind_ok]
    rfl

theorem mapOut_eq_ok {α β} {f : α → Out β} : ∀ {l : List α} {r : List β}, mapOut f l = .ok r →
    r.length = l.length ∧ ∀ (i : Nat) (hi : i < l.length) (hr : i < r.length), f l[i] = .ok r[i]
  | [], _, h => by
    cases h
    exact ⟨rfl, nofun⟩
  | a :: as, _, h => by
    obtain ⟨b, hb, h⟩ := Out.bind_eq_ok h
    obtain ⟨bs, hbs, h⟩ := Out.bind_eq_ok h
    cases h
    obtain ⟨hl, hg⟩ := mapOut_eq_ok hbs
    refine ⟨congrArg (· + 1) hl, fun i hi hr => ?_⟩
    cases i with
    | zero => exact hb
    | succ j => exact hg j (Nat.lt_of_succ_lt_succ hi) (Nat.lt_of_succ_lt_succ hr)

def ItemNode (n : Node) : Prop := (itemOf n).isOk = true

theorem itemsOf_ok : ∀ (ns : List Node), (∀ n ∈ ns, ItemNode n) → (itemsOf ns).isOk = true := by
  intro ns
  induction ns with
  | nil => intro _; rfl
  | cons n ns ih =>
    intro h
    obtain ⟨i, hi⟩ := Out.isOk_iff.mp (h n (by simp))
    obtain ⟨is, his⟩ := Out.isOk_iff.mp (ih (fun x hx => h x (by simp [hx])))
    simp only [itemsOf, hi, his, Out.bind_ok]
    rfl

end Fx
