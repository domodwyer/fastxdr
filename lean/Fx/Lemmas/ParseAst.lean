/-
  Fx.Lemmas.ParseAst — `walk` on the token tree of a specification, in closed form: the node list each declaration
  becomes, computed from the declaration itself (no tokens, no layout), handed to the constructors of `src/ast`.
-/
import Fx.Lemmas.ParseSim
import Fx.Lemmas.WalkEq
namespace Fx.Parse
open Fx.Peg

def Prim.basic : Prim → BasicType
  | .int => .i32 | .hyper => .i64 | .uint _ => .u32 | .uhyper _ => .u64
  | .float => .f32 | .double => .f64 | .string => .string | .opaque => .opaque

theorem ofStr_prim_basic (pr : Prim) (t : List Char) (hp : pr.ok = true) (ht : wsRun t = true) :
    BasicType.ofStr (String.ofList (pr.words ++ t)) = pr.basic := by
  rw [BasicType.ofStr, normWs_prim pr t hp ht]
  cases pr <;> rfl

/-- `BasicType::from` of a name as written (a name that spells `bool`, `uint32_t`, … is that built-in type) -/
def nameTy (n : List Char) : BasicType := BasicType.ofStr (String.ofList n)

def TyRef.node : TyRef → Node
  | .named n => .type (nameTy n)
  | .prim pr _ => .type pr.basic

def Lit.node (l : Lit) : Node := .type (nameTy l.text)

def Arr.node : Arr → Node
  | .var _ none => .arrayVariable ""
  | .var _ (some (n, _)) => .arrayVariable (String.ofList n.text)
  | .fixed _ n _ => .arrayFixed (String.ofList n.text)

def Field.nameNode (f : Field) : Node :=
  match f.star with
  | none => .type (nameTy f.name)
  | some _ => .option [.type (nameTy f.name)]

def arrNodes : Option (Arr × Layout) → List Node
  | none => []
  | some (a, _) => [a.node]

def Field.nodes (f : Field) : List Node := f.ty.node :: f.nameNode :: arrNodes f.arr

theorem walkAll_tyref (t : TyRef) (h : t.ok = true) : walkAll t.tokens = .ok [t.node] := by
  cases t with
  | named n => exact walkAll_cons_ok (walk_ident n []) rfl
  | prim pr tr =>
    obtain ⟨hpr, htr⟩ := TyRef.prim_ok h
    refine walkAll_cons_ok ?_ rfl
    rw [walk_basic_type, ofStr_prim_basic pr tr hpr htr]; rfl

theorem walkAll_lit (l : Lit) : walkAll l.tokens = .ok [l.node] := by
  cases l with
  | num d => exact walkAll_cons_ok (walk_ident_value d []) rfl
  | name n => exact walkAll_cons_ok (walk_ident_const n _) rfl

theorem innerStr_lit (l : Lit) : innerStr l.tokens = String.ofList l.text := by
  cases l <;> rfl

theorem walkAll_arr (a : Arr) : walkAll a.tokens = .ok [a.node] := by
  cases a with
  | var l1 len =>
    cases len with
    | none => exact walkAll_cons_ok (by rw [walk_array_variable]; rfl) rfl
    | some bl =>
      obtain ⟨n, l2⟩ := bl
      exact walkAll_cons_ok (by rw [walk_array_variable, innerStr_lit]; rfl) rfl
  | fixed l1 n l2 => exact walkAll_cons_ok (by rw [walk_array_fixed, innerStr_lit]; rfl) rfl

theorem walkAll_nameToks (f : Field) : walkAll f.nameToks = .ok [f.nameNode] := by
  simp only [Field.nameToks, Field.nameNode]
  cases f.star with
  | none => exact walkAll_cons_ok (walk_ident _ []) rfl
  | some ls =>
    refine walkAll_cons_ok ?_ rfl
    rw [walk_option, walkAll_cons_ok (walk_ident f.name []) rfl]; rfl

theorem walkAll_arrToks (a : Option (Arr × Layout)) : walkAll (arrToks a) = .ok (arrNodes a) := by
  cases a with
  | none => rfl
  | some al => exact walkAll_arr al.1

theorem walkAll_field (f : Field) (h : f.ok = true) : walkAll f.tokens = .ok f.nodes := by
  simp only [Field.tokens, Field.nodes]
  rw [walkAll_append, walkAll_tyref f.ty (Field.of_ok h).ty, Out.bind_ok, walkAll_append, walkAll_nameToks, Out.bind_ok, walkAll_arrToks]
  rfl

def mapOutL {α β} (f : α → Out β) : List α → Out (List β) := mapOut f

theorem walkAll_elems {α : Type} (l : List α) (el : α → Elem) (node : α → Out Node)
    (h : ∀ x ∈ l, walkAll (el x).TS = (node x).bind fun n => .ok [n]) :
    walkAll (elemToks (l.map el)) = mapOut node l := by
  induction l with
  | nil => exact walkAll_nil
  | cons x xs ih =>
    have hxs : walkAll (elemToks (xs.map el)) = mapOut node xs := ih fun y hy => h y (List.mem_cons_of_mem _ hy)
    rw [elemToks] at hxs ⊢
    simp only [List.map_cons, List.flatten_cons, mapOut]
    rw [walkAll_append, h x List.mem_cons_self, hxs, Out.bind_assoc]
    simp only [Out.bind_ok, List.singleton_append]

def ConstD.node (d : ConstD) : Out Node := .ok (.constant [.type (nameTy d.name), .type (nameTy d.val)])

def TypedefD.node (d : TypedefD) : Out Node := (Typedef.new d.f.nodes).bind fun t => .ok (.typedef t)

def VariantD.node (v : VariantD) : Node := .enumVariant [.type (nameTy v.name), .type (nameTy v.val)]

def EnumD.node (d : EnumD) : Out Node :=
  (Enum.new (.type (nameTy d.name) :: d.first.node :: d.more.map (fun m => m.2.1.node))).bind fun e => .ok (.enum e)

def StructD.node (d : StructD) : Out Node :=
  (Struct.new (.type (nameTy d.name) :: d.fields.map (fun fl => Node.structDataField fl.1.nodes))).bind fun s => .ok (.struct s)

def Body.node : Body → Node
  | .void _ => .unionVoid
  | .field f => .unionDataField f.nodes

def Arm.node : Arm → Node
  | .case _ lab _ _ body => .unionCase (lab.node :: (match body with | none => [] | some b => [b.node]))
  | .dflt _ _ body => .unionDefault [body.node]

def UnionD.node (d : UnionD) : Out Node :=
  (Union.new (.type (nameTy d.name) :: d.ty.node :: .type (nameTy d.var) :: d.arms.map (fun al => al.1.node))).bind
    fun u => .ok (.union u)

def Decl.node : Decl → Out Node
  | .const d => d.node
  | .typedef d => d.node
  | .enum d => d.node
  | .struct d => d.node
  | .union d => d.node

theorem one_of_bind {o : Out Node} : (o.bind fun n => Out.ok [n]) = (o.bind fun n => .ok [n]) := rfl

theorem walkAll_const (d : ConstD) : walkAll d.tokens = d.node.bind fun n => .ok [n] := by
  simp only [ConstD.tokens, ConstD.node, Out.bind_ok]
  refine walkAll_cons_ok ?_ rfl
  rw [walk_constant, walkAll_cons_ok (walk_ident d.name []) (walkAll_cons_ok (walk_ident d.val []) rfl)]; rfl

theorem walkAll_typedef (d : TypedefD) (h : d.ok = true) : walkAll d.tokens = d.node.bind fun n => .ok [n] := by
  simp only [TypedefD.tokens, TypedefD.node]
  rw [walkAll_single, walk_typedef, walkAll_field d.f (TypedefD.of_ok h).f, Out.bind_ok]

theorem walkAll_variant (v : VariantD) : walkAll v.tokens = .ok [v.node] := by
  refine walkAll_cons_ok ?_ rfl
  rw [walk_enum_variant, walkAll_cons_ok (walk_ident v.name []) (walkAll_cons_ok (walk_ident v.val []) rfl)]; rfl

theorem walkAll_enum (d : EnumD) : walkAll d.tokens = d.node.bind fun n => .ok [n] := by
  have hmore : walkAll (elemToks (d.more.map moreElem)) = .ok (d.more.map (fun m => m.2.1.node)) := by
    rw [walkAll_elems d.more moreElem (fun m => .ok m.2.1.node) (fun m _ => by simpa [moreElem] using walkAll_variant m.2.1)]
    exact mapOut_ok
  have hcs : walkAll (Pair.mk "ident" d.name [] :: (d.first.tokens ++ elemToks (d.more.map moreElem))) =
      .ok (.type (nameTy d.name) :: d.first.node :: d.more.map (fun m => m.2.1.node)) := by
    refine walkAll_cons_ok (walk_ident _ _) ?_
    rw [walkAll_append, walkAll_variant, Out.bind_ok, hmore]; rfl
  simp only [EnumD.tokens, EnumD.node]
  rw [walkAll_single, walk_enum_type, hcs, Out.bind_ok]

theorem walkAll_struct (d : StructD) (h : d.ok = true) : walkAll d.tokens = d.node.bind fun n => .ok [n] := by
  have hfs : walkAll (elemToks (d.fields.map (fieldElem "struct_data_field"))) =
      .ok (d.fields.map (fun fl => Node.structDataField fl.1.nodes)) := by
    rw [walkAll_elems d.fields (fieldElem "struct_data_field") (fun fl => .ok (Node.structDataField fl.1.nodes)) (fun fl hfl => by
      have := ((StructD.of_ok h).fields fl hfl).1
      simp only [fieldElem, Out.bind_ok]
      exact walkAll_cons_ok (by rw [walk_struct_data_field, walkAll_field fl.1 this]; rfl) rfl)]
    exact mapOut_ok
  have hcs : walkAll (Pair.mk "ident" d.name [] :: elemToks (d.fields.map (fieldElem "struct_data_field"))) =
      .ok (.type (nameTy d.name) :: d.fields.map (fun fl => Node.structDataField fl.1.nodes)) :=
    walkAll_cons_ok (walk_ident _ _) hfs
  simp only [StructD.tokens, StructD.node]
  rw [walkAll_single, walk_struct_type, hcs, Out.bind_ok]

theorem walkAll_body (b : Body) (h : b.ok = true) : walkAll b.tokens = .ok [b.node] := by
  cases b with
  | void l => exact walkAll_cons_ok (walk_union_void _ _) rfl
  | field f => exact walkAll_cons_ok (by rw [walk_union_data_field, walkAll_field f h]; rfl) rfl

theorem walkAll_arm (a : Arm) (h : a.ok = true) : walkAll a.tokens = .ok [a.node] := by
  cases a with
  | case la lab lb lc body =>
    obtain ⟨_, _, _, _, hb⟩ := Arm.case_ok h
    refine walkAll_cons_ok ?_ rfl
    rw [walk_union_case, walkAll_append, walkAll_lit, Out.bind_ok]
    cases body with
    | none => rfl
    | some b =>
      rw [optBodyToks, walkAll_body b (hb b rfl)]
      rfl
  | dflt la lb body =>
    obtain ⟨_, _, hb⟩ := Arm.dflt_ok h
    refine walkAll_cons_ok ?_ rfl
    rw [walk_union_default, walkAll_body body hb]; rfl

theorem walkAll_union (d : UnionD) (h : d.ok = true) : walkAll d.tokens = d.node.bind fun n => .ok [n] := by
  have ok := UnionD.of_ok h
  have hfs : walkAll (elemToks (d.arms.map armElem)) = .ok (d.arms.map (fun al => al.1.node)) := by
    rw [walkAll_elems d.arms armElem (fun al => .ok al.1.node) (fun al hal => by
      simpa [armElem] using walkAll_arm al.1 (ok.arms al hal).1)]
    exact mapOut_ok
  have hcs : walkAll (Pair.mk "ident" d.name [] :: (d.ty.tokens ++ (Pair.mk "ident" d.var [] :: elemToks (d.arms.map armElem)))) =
      .ok (.type (nameTy d.name) :: d.ty.node :: .type (nameTy d.var) :: d.arms.map (fun al => al.1.node)) := by
    refine walkAll_cons_ok (walk_ident _ _) ?_
    rw [walkAll_append, walkAll_tyref d.ty ok.ty, Out.bind_ok, walkAll_cons_ok (walk_ident d.var []) hfs]; rfl
  simp only [UnionD.tokens, UnionD.node]
  rw [walkAll_single, walk_union, hcs, Out.bind_ok]

theorem walkAll_decl (d : Decl) (h : d.ok = true) : walkAll d.tokens = d.node.bind fun n => .ok [n] := by
  cases d with
  | const d => exact walkAll_const d
  | typedef d => exact walkAll_typedef d h
  | enum d => exact walkAll_enum d
  | struct d => exact walkAll_struct d h
  | union d => exact walkAll_union d h

theorem walk_root (s : Spec) (h : s.ok = true) :
    walk s.root = (mapOut (fun dl : Decl × Layout => dl.1.node) s.decls).bind fun ns => .ok (.root (ns ++ [.eof])) := by
  simp only [Spec.root, Spec.children]
  rw [walk_item, walkAll_append, walkAll_elems s.decls declElem (fun dl => dl.1.node) (fun dl hdl => by
    simpa [declElem] using walkAll_decl dl.1 ((Spec.of_ok h).decls dl hdl).1)]
  cases mapOut (fun dl : Decl × Layout => dl.1.node) s.decls with
  | panicAt f m => rfl
  | ok ns =>
    simp only [Out.bind_ok]
    rw [walkAll_cons_ok (walk_EOI [] []) rfl]; rfl

end Fx.Parse
