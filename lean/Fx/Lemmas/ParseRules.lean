/-
  Fx.Lemmas.ParseRules — the rules of the grammar regenerated from `src/xdr.pest`, looked up once: `Has n ty body` says
  what `evalRule` finds under the name `n`, and the big-step rules for a reference take that one fact.
-/
import Fx.Lemmas.PegRel
import Fx.Grammar
import Fx.Lemmas.ParseSyntax
namespace Fx.Parse
open Fx.Peg

abbrev X : Peg.Grammar := Grammar.xdr

def eLong : Expr := .seq (.not (.str ['*', '/'])) .any
def eShort : Expr := .seq (.not .newline) .any
def eIdChar : Expr := .alt .alnum (.str ['_'])
def eTy : Expr := .alt (.ref "ident") (.ref "basic_type")
def eName : Expr := .alt (.ref "option") (.ref "ident")
def eArrSemi : Expr := .seq (.opt (.ref "array")) (.str [';'])
def eBody : Expr := .alt (.ref "union_data_field") (.ref "union_void")
def eArm : Expr := .alt (.ref "union_case") (.ref "union_default")

/-- `k₁ | (k₂ | (… | kₙ))`, as the translated grammar nests a choice of literals -/
def altWords : List (List Char) → Expr
  | [] => .str []
  | [k] => .str k
  | k :: k' :: ks => .alt (.str k) (altWords (k' :: ks))

def kwUnsigned : List Char := ['u', 'n', 's', 'i', 'g', 'n', 'e', 'd']
def intWords : List (List Char) := [['i', 'n', 't'], ['h', 'y', 'p', 'e', 'r']]
def otherWords : List (List Char) :=
  [['f', 'l', 'o', 'a', 't'], ['d', 'o', 'u', 'b', 'l', 'e'], ['s', 't', 'r', 'i', 'n', 'g'], ['o', 'p', 'a', 'q', 'u', 'e']]
def eWsP : Expr := .plus (.ref "WHITESPACE")
theorem typeWords_eq : typeWords = kwUnsigned :: (intWords ++ otherWords) := rfl

def eUns : Expr := .opt (.seq (.str kwUnsigned) eWsP)
def eBasicType : Expr := .alt (.seq eUns (.seq (altWords intWords) eWsP)) (.seq (altWords otherWords) eWsP)

def eDecl : Expr :=
  .alt (.ref "constant") (.alt (.ref "typedef") (.alt (.ref "enum_type") (.alt (.ref "struct_type") (.ref "union"))))

def Has (n : String) (ty : RuleTy) (body : Expr) : Prop :=
  X.find n = some ⟨n, ty, body⟩ ∧ (n == "WHITESPACE" || n == "COMMENT") = false

def HasLayout (n : String) (body : Expr) : Prop :=
  X.find n = some ⟨n, .silent, body⟩ ∧ (n == "WHITESPACE" || n == "COMMENT") = true

section
variable {a : Bool} {n : String} {ty : RuleTy} {b : Expr} {s s' : St} {ts : List Pair}

theorem Has.ok (h : Has n .normal b) (hb : EOk X false b s s' ts) : ROk X false n s s' [Pair.mk n (consumed s s') ts] :=
  ROk.normal h.1 h.2 rfl hb

theorem Has.okA (h : Has n .normal b) (hb : EOk X true b s s' ts) : ROk X true n s s' [] :=
  ROk.normalA h.1 h.2 rfl hb

theorem Has.okAt (h : Has n .atomic b) (hb : EOk X true b s s' ts) : ROk X false n s s' [Pair.mk n (consumed s s') []] :=
  ROk.atomic h.1 h.2 rfl hb

theorem Has.okAtA (h : Has n .atomic b) (hb : EOk X true b s s' ts) : ROk X true n s s' [] :=
  ROk.atomicA h.1 h.2 rfl hb

theorem Has.fail (h : Has n ty b) (hb : EFail X a b s) (hty : ty ≠ .atomic := by decide) : RFail X a n s := by
  cases ty with
  | normal => exact RFail.normal h.1 h.2 rfl hb
  | silent => exact RFail.silent h.1 h.2 rfl hb
  | atomic => exact absurd rfl hty

theorem Has.failAt (h : Has n .atomic b) (hb : EFail X true b s) : RFail X a n s :=
  RFail.atomic h.1 h.2 rfl hb

theorem HasLayout.ok (h : HasLayout n b) (hb : EOk X true b s s' ts) : ROk X a n s s' [] :=
  ROk.layout h.1 h.2 hb

theorem HasLayout.fail (h : HasLayout n b) (hb : EFail X true b s) : RFail X a n s :=
  RFail.layout h.1 h.2 hb
end

/-- the names of the table; that they are distinct is the one place names are compared -/
theorem xdr_names : X.map (·.name) =
    ["ident", "ident_const", "ident_value", "basic_type", "comment", "comment_long_inner", "comment_long", "comment_short_inner",
     "comment_short", "constant", "enum_type", "enum_variant", "array", "array_variable", "array_fixed", "array_length",
     "struct_type", "struct_data_field", "option", "data_field", "union", "union_case_value", "union_data_field", "union_case",
     "union_void", "union_default", "typedef", "item", "WHITESPACE", "COMMENT"] := rfl

theorem xdr_nodup : (X.map (·.name)).Nodup := by
  rw [xdr_names]
  simp only [List.nodup_cons, List.mem_cons, String.reduceEq, List.not_mem_nil, or_self, not_false_eq_true, true_and, List.nodup_nil]

/-- the `i`-th rule: `rfl` on a list index compares no strings -/
theorem Has.at (i : Nat) {n : String} {ty : RuleTy} {b : Expr} (h : X[i]? = some ⟨n, ty, b⟩) (h1 : n ≠ "WHITESPACE" := by simp)
    (h2 : n ≠ "COMMENT" := by simp) : Has n ty b :=
  ⟨Grammar.find_of_getElem? xdr_nodup h, by simp [h1, h2]⟩

theorem HasLayout.at (i : Nat) {n : String} {b : Expr} (h : X[i]? = some ⟨n, .silent, b⟩)
    (hn : (n == "WHITESPACE" || n == "COMMENT") = true := by simp) : HasLayout n b :=
  ⟨Grammar.find_of_getElem? xdr_nodup h, hn⟩

-- the rules `item` reaches and the two layout rules, with their positions in `src/xdr.pest`

theorem has_ident : Has "ident" .atomic (.seq (.not (.ref "basic_type")) (.plus eIdChar)) := Has.at 0 rfl

theorem has_ident_const : Has "ident_const" .normal (.ref "ident") := Has.at 1 rfl

theorem has_ident_value : Has "ident_value" .atomic (.plus .digit) := Has.at 2 rfl

theorem has_basic_type : Has "basic_type" .atomic eBasicType := Has.at 3 rfl

theorem has_comment_long_inner : Has "comment_long_inner" .normal (.star eLong) := Has.at 5 rfl

theorem has_comment_long : Has "comment_long" .normal (.seq (.str ['/', '*']) (.seq (.ref "comment_long_inner") (.str ['*', '/']))) :=
  Has.at 6 rfl

theorem has_comment_short_inner : Has "comment_short_inner" .atomic (.star eShort) := Has.at 7 rfl

theorem has_comment_short : Has "comment_short" .normal (.seq (.str ['/', '/']) (.ref "comment_short_inner")) := Has.at 8 rfl

theorem has_constant : Has "constant" .normal
    (.seq (.str kwConst) (.seq (.ref "ident") (.seq (.str ['=']) (.seq (.ref "ident") (.str [';']))))) :=
  Has.at 9 rfl

theorem has_enum_type : Has "enum_type" .normal
    (.seq (.str kwEnum) (.seq (.ref "ident") (.seq (.str ['{']) (.seq (.plus (.ref "enum_variant"))
      (.seq (.star (.seq (.str [',']) (.ref "enum_variant"))) (.seq (.str ['}']) (.str [';']))))))) :=
  Has.at 10 rfl

theorem has_enum_variant : Has "enum_variant" .normal (.seq (.ref "ident") (.seq (.str ['=']) (.ref "ident"))) :=
  Has.at 11 rfl

theorem has_array : Has "array" .silent (.alt (.ref "array_variable") (.ref "array_fixed")) := Has.at 12 rfl

theorem has_array_variable : Has "array_variable" .normal (.seq (.str ['<']) (.seq (.opt (.ref "array_length")) (.str ['>']))) :=
  Has.at 13 rfl

theorem has_array_fixed : Has "array_fixed" .normal (.seq (.str ['[']) (.seq (.ref "array_length") (.str [']']))) :=
  Has.at 14 rfl

theorem has_array_length : Has "array_length" .silent (.alt (.ref "ident_value") (.ref "ident_const")) := Has.at 15 rfl

theorem has_struct_type : Has "struct_type" .normal
    (.seq (.str kwStruct) (.seq (.ref "ident") (.seq (.str ['{']) (.seq (.star (.ref "struct_data_field"))
      (.seq (.str ['}']) (.str [';'])))))) :=
  Has.at 16 rfl

theorem has_struct_data_field : Has "struct_data_field" .normal (.ref "data_field") := Has.at 17 rfl

theorem has_option : Has "option" .normal (.seq (.str ['*']) (.ref "ident")) := Has.at 18 rfl

theorem has_data_field : Has "data_field" .silent (.seq eTy (.seq eName eArrSemi)) := Has.at 19 rfl

theorem has_union : Has "union" .normal
    (.seq (.str kwUnion) (.seq (.ref "ident") (.seq (.str kwSwitch) (.seq (.str ['(']) (.seq eTy (.seq (.ref "ident")
      (.seq (.str [')']) (.seq (.str ['{']) (.seq (.star eArm) (.seq (.str ['}']) (.str [';']))))))))))) :=
  Has.at 20 rfl

theorem has_union_case_value : Has "union_case_value" .silent (.alt (.ref "ident_value") (.ref "ident_const")) :=
  Has.at 21 rfl

theorem has_union_data_field : Has "union_data_field" .normal (.ref "data_field") := Has.at 22 rfl

theorem has_union_case : Has "union_case" .normal
    (.seq (.str kwCase) (.seq (.ref "union_case_value") (.seq (.str [':']) (.opt eBody)))) :=
  Has.at 23 rfl

theorem has_union_void : Has "union_void" .normal (.seq (.str kwVoid) (.str [';'])) := Has.at 24 rfl

theorem has_union_default : Has "union_default" .normal (.seq (.str kwDefault) (.seq (.str [':']) eBody)) := Has.at 25 rfl

theorem has_typedef : Has "typedef" .normal (.seq (.str kwTypedef) (.seq eTy (.seq (.ref "ident") eArrSemi))) :=
  Has.at 26 rfl

theorem has_item : Has "item" .normal (.seq .soi (.seq (.star eDecl) .eoi)) := Has.at 27 rfl

theorem has_WHITESPACE : HasLayout "WHITESPACE" (.alt (.str [' ']) (.alt (.str ['\t']) .newline)) := HasLayout.at 28 rfl

theorem has_COMMENT : HasLayout "COMMENT" (.alt (.ref "comment_long") (.ref "comment_short")) := HasLayout.at 29 rfl

end Fx.Parse
