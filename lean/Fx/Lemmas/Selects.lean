/-
  Fx.Lemmas.Selects — unions and enums: the discriminant decoder (`disc_reads`), the enum decoder as a lookup by value
  (`evalImpl_enum_declared`), and the arm list selecting the declared arm (`match_selects_of_supported`, C06).
-/
import Fx.Lemmas.EmitPlans
import Fx.Lemmas.Reads
namespace Fx

/-- the value the discriminant decoder of `u` yields for the word `d` -/
def scrutOf (a : Ast) (u : Union) (d : Nat) : Val :=
  match discKind a u.switch.varType with
  | .u32 => .u32 d
  | .i32 => .i32 (toSigned 32 d)
  | .bool => .bool (d == 1)
  | .enum e => (match enumMemberName a e d with | some m => .cenum e.name m | none => .none)
  | .unsupported => .none

/-- For every union, the emitted discriminant decoder reads the word and the emitted arm list selects the arm the
    specification assigns to it (first data labels, then void labels, then the default).  The `if` mirrors the emitter: a
    default with data is not an arm of the list but the `match`'s tail, so for it no arm may be selected. -/
def MatchSelects (a : Ast) (P : Plans) : Prop :=
  ∀ (n : String) (u : Union) (i : Impl) (ud : UnionDec),
    bget n a.types = some (.union u) → P.findImpl n = some i → i.body = .union ud →
    ∀ (d : Nat), discOk a (discKind a u.switch.varType) d = true →
      (∀ fuel off s l, DecOk (evalBasic a P (fuel + 2) ud.disc ⟨off, be32 d ++ s, l⟩) (scrutOf a u d) (off + 4) s) ∧
      (match selectDeclared a u d with
       | .data lab ty =>
         if lab = "default" then
           selectArm a (scrutOf a u d) ud.arms = none ∧ ∃ fd, ud.tail = .defaultData fd ∧ decodeArray a ty .useAlias = .ok fd ∧ elemOk a ty = true
         else ∃ arm fd, selectArm a (scrutOf a u d) ud.arms = some arm ∧ arm.variant = lab ∧ arm.payload = some fd ∧
           decodeArray a ty .useAlias = .ok fd ∧ elemOk a ty = true
       | .void lab => ∃ arm, selectArm a (scrutOf a u d) ud.arms = some arm ∧ arm.variant = lab ∧ arm.payload = none
       | .noArm => selectArm a (scrutOf a u d) ud.arms = none ∧ ud.tail = .errUnknown)

/-- what the decoder induction knows about the specification and its plans -/
structure RT (a : Ast) (P : Plans) : Prop where
  plans : PlansFor a P
  find : ∀ n ty, bget n a.types = some ty → ∃ i, P.findImpl n = some i ∧ emitImpl a ty = .ok i
  tyOk : ∀ n ty, bget n a.types = some ty → typeOk a ty = true ∧ ty.rustName = n
  sizeExact : P.SizeExact' = true
  selects : MatchSelects a P

/-- the member named `l` and the member of value `d` are one member: the reference's label lookup and the emitted guard agree -/
theorem variant_name_value_iff (a : Ast) (vs : List Variant) (hn : (vs.map (·.name)).Nodup) (hv : (vs.map (enumMemberValue a)).Nodup)
    (l : String) (d : Nat) :
    (((vs.find? fun v => v.name == l).bind (enumMemberValue a) = some d) ↔
     ((vs.find? fun v => enumMemberValue a v == some d).map (·.name) = some l)) := by
  simp only [Option.bind_eq_some_iff, Option.map_eq_some_iff, List.find?_key _ hn, List.find?_key _ hv]
  exact ⟨fun ⟨w, ⟨h1, h2⟩, h3⟩ => ⟨w, ⟨h1, h3⟩, h2⟩, fun ⟨w, ⟨h1, h2⟩, h3⟩ => ⟨w, ⟨h1, h3⟩, h2⟩⟩

theorem enumMemberValue_eq_variantNat (a : Ast) {v : Variant} (h : ∃ i, v.value = .numeric i ∧ 0 ≤ i ∧ i < 2^31) :
    enumMemberValue a v = variantNat v := by
  obtain ⟨i, hv, h0, _⟩ := h
  rw [enumMemberValue_numeric a hv h0, variantNat, hv]

/-- a label value is below `2^31`, where `as i32` is the identity; a word from `2^31` on is negative as `i32` -/
theorem toSigned32_eq_iff {d v : Nat} (hd : d < 2^32) (hv : v < 2^31) : toSigned 32 d = (v : Int) ↔ v = d := by
  simp only [toSigned]
  split <;> omega

theorem litMatches_int {a : Ast} {t : String} {v : Nat} (hp : parseDecOrHex t = some v) {sv : Val} {i : Int} (hs : scrutInt sv = some i) :
    litMatches a t sv = (i == (v : Int)) := by
  simp only [litMatches, parseIntLit_eq, hp, hs]

theorem patMatches_guard_int {a : Ast} (hc : bget "c" a.constants = none) {e v c : String} {j : Int} (hd : enumDisc a e v = some j)
    {sv : Val} {i : Int} (hs : scrutInt sv = some i) : patMatches a (.guard e v c) sv = (i == j) := by
  cases sv <;> simp only [scrutInt, Option.some.injEq, reduceCtorEq] at hs <;> subst hs <;>
    simp only [patMatches, Ast.getConst, hc, hd, scrutInt]

/-- `hi`: the scrutinee is the label value exactly when the word is — plainly for `u32`, by `toSigned32_eq_iff` for `i32` -/
theorem label_matches_int {a : Ast} (F : SFacts a) {swTy : BasicType} {sv : Val} {i : Int} (hs : scrutInt sv = some i) {d v : Nat}
    (hi : i = (v : Int) ↔ v = d) {l : String} (hv : labelValue a l = some v)
    (h1 : l ≠ "TRUE") (h2 : l ≠ "FALSE") (hsn : safeName l = l) :
    patMatches a (matcherOf a swTy l) sv = (labelValue a l == some d) := by
  rw [hv, Option.some_beq_some, Bool.eq_iff_iff, beq_iff_eq, ← hi]
  rcases matcherOf_int F swTy hv h1 h2 hsn with ⟨t, hm, hp⟩ | ⟨e, hm, _, hdisc⟩ <;> rw [hm]
  · rw [patMatches, litMatches_int hp hs, beq_iff_eq]
  · rw [patMatches_guard_int F.noC hdisc hs, beq_iff_eq]

theorem litMatches_true (a : Ast) (b : Bool) : litMatches a "true" (.bool b) = b := by
  have hp : parseIntLit "true" = none := by decide
  simp only [litMatches, hp, beq_self_eq_true, if_true]

theorem litMatches_false (a : Ast) (b : Bool) : litMatches a "false" (.bool b) = !b := by
  have hp : parseIntLit "false" = none := by decide
  simp only [litMatches, hp, show ("false" == "true") = false by simp, Bool.false_eq_true, if_false, beq_self_eq_true, if_true]

theorem labelValue_TRUE (a : Ast) : labelValue a "TRUE" = some 1 := by
  simp only [labelValue, beq_self_eq_true, if_true]

theorem labelValue_FALSE (a : Ast) : labelValue a "FALSE" = some 0 := by
  simp only [labelValue, show ("FALSE" == "TRUE") = false by simp, Bool.false_eq_true, if_false, beq_self_eq_true, if_true]

theorem label_matches_bool {a : Ast} (F : SFacts a) {swTy : BasicType} {d : Nat} (hd : d ≤ 1) {l : String}
    (hl : l = "TRUE" ∨ l = "FALSE") :
    patMatches a (matcherOf a swTy l) (.bool (d == 1)) = (labelValue a l == some d) := by
  rcases hl with rfl | rfl
  · simp only [matcherOf, Ast.getConst, F.noBoolConst.1, safeName_TRUE, patMatches, litMatches_true, labelValue_TRUE]
    rcases Nat.le_one_iff_eq_zero_or_eq_one.mp hd with rfl | rfl <;> rfl
  · simp only [matcherOf, Ast.getConst, F.noBoolConst.2, safeName_FALSE, patMatches, litMatches_false, labelValue_FALSE]
    rcases Nat.le_one_iff_eq_zero_or_eq_one.mp hd with rfl | rfl <;> rfl

theorem label_matches_enum {a : Ast} (F : SFacts a) {swTy : BasicType} {nm : String} {e : Enum} (hb : bget nm a.types = some (.enum e))
    {d : Nat} {m : String} (hm : enumMemberName a e d = some m) {l : String} (hl : e.variants.any (·.name == l) = true) :
    patMatches a (matcherOf a swTy l) (.cenum e.name m) = (labelValue a l == some d) := by
  have hc := F.label_const hb hl
  obtain ⟨hnum, h1, h2, _⟩ := F.constNames l _ hc
  obtain ⟨_, hnames, hnumeric, hvals⟩ := enumOk_facts (F.typeOk nm _ hb)
  rw [← List.map_congr_left fun v hv => enumMemberValue_eq_variantNat a (hnumeric v hv)] at hvals
  -- the label's value is the value of the member named `l`; the scrutinee's member is the one with value `d`
  have hlv : labelValue a l = (e.variants.find? (·.name == l)).bind (enumMemberValue a) := by
    rw [labelValue_const h1 h2 hnum]
    simp only [constLabelValue, hc, findEnumMember, hb]
  simp only [matcherOf, Ast.getConst, hc, patMatches, F.noC, F.enum_name hb, beq_self_eq_true, Bool.true_and, hlv]
  rw [Bool.eq_iff_iff, beq_iff_eq, beq_iff_eq, variant_name_value_iff a e.variants hnames hvals l d]
  show m = l ↔ enumMemberName a e d = some l
  rw [hm, Option.some.injEq]

theorem enumMemberName_some {a : Ast} {e : Enum} {d : Nat} (h : enumHasValue a e d = true) : ∃ m, enumMemberName a e d = some m :=
  Option.isSome_iff_exists.mp (enumHasValue_eq a e d ▸ h)

theorem selectEnum_eq {a : Ast} (vs : List Variant)
    (hnum : ∀ v ∈ vs, ∃ i, v.value = .numeric i ∧ 0 ≤ i ∧ i < 2^31) (w : Nat) (hw : w < 2^32) :
    selectEnum a (.i32 (toSigned 32 w)) (vs.map fun x => (x.value, x.name)) =
      (vs.find? fun v => enumMemberValue a v == some w).map (·.name) := by
  induction vs with
  | nil => rfl
  | cons v rest ih =>
    obtain ⟨i, hv, h0, h31⟩ := hnum v List.mem_cons_self
    have hmv := enumMemberValue_numeric a hv h0
    have hcmp : (toSigned 32 w == i) = (i.toNat == w) := by
      rw [Bool.eq_iff_iff, beq_iff_eq, beq_iff_eq, ← toSigned32_eq_iff hw (by omega), Int.toNat_of_nonneg h0]
    simp only [List.map_cons, selectEnum, List.find?_cons, hv, enumArmMatches, scrutInt, hmv, hcmp, Option.some_beq_some]
    cases (i.toNat == w)
    · exact ih fun v' hv' => hnum v' (List.mem_cons_of_mem _ hv')
    · rfl

theorem evalImpl_enum_declared {a : Ast} {P : Plans} {nm : String} {e : Enum} {i : Impl} (hfi : P.findImpl nm = some i)
    (hemit : emitImpl a (.enum e) = .ok i) (hok : enumOk e = true) (k : Nat) (c : Cur) :
    evalImpl a P (k + 1) nm c = (readU32 c).bind fun w c1 =>
      match enumMemberName a e w with
      | some m => .ok (.cenum nm m) c1
      | none => .err (.unknownVariant (toSigned 32 w)) c1.log := by
  cases hemit
  simp only [evalImpl_enum hfi rfl, readI32, Res.map]
  cases hr : readU32 c with
  | ok w c1 =>
    simp only [Res.bind_ok, selectEnum_eq e.variants (enumOk_facts hok).2.2.1 w (readU32_ok hr).2.2.1, enumMemberName]
    cases e.variants.find? fun v => enumMemberValue a v == some w <;> rfl
  | _ => rfl

theorem evalImpl_enum_ok {a : Ast} {P : Plans} {nm : String} {e : Enum} {i : Impl} (hfi : P.findImpl nm = some i)
    (hemit : emitImpl a (.enum e) = .ok i) (hok : enumOk e = true) {fuel : Nat} {c : Cur} {v : Val} {c' : Cur}
    (h : evalImpl a P fuel nm c = .ok v c') :
    ∃ w m, enumHasValue a e w = true ∧ enumMemberName a e w = some m ∧ v = .cenum nm m ∧ c'.off = c.off + 4 := by
  cases fuel with
  | zero => cases h
  | succ k =>
    rw [evalImpl_enum_declared hfi hemit hok] at h
    obtain ⟨w, c1, h1, h2⟩ := Res.bind_eq_ok h
    split at h2
    · rename_i m hm
      cases h2
      exact ⟨w, m, by rw [enumHasValue_eq, hm]; rfl, hm, rfl, by rw [(readU32_ok h1).1]; rfl⟩
    · cases h2

/-- every discriminant is one word: `u32` as it stands, `i32` reinterpreted, `bool` only 0 or 1, an enum through that enum's
    own decoder — hence two units of fuel -/
theorem disc_reads {a : Ast} {P : Plans} (F : SFacts a)
    (hfind : ∀ n ty, bget n a.types = some ty → ∃ i, P.findImpl n = some i ∧ emitImpl a ty = .ok i) (u : Union) {disc : BasicDec}
    (hsup : discKind a u.switch.varType ≠ .unsupported)
    (he : decodeBasic a u.switch.varType .useTarget = .ok disc) (fuel : Nat) :
    Reads be32 (evalBasic a P fuel disc) (fun _ => 2 ≤ fuel) (discOk a (discKind a u.switch.varType)) (fun _ => scrutOf a u) := by
  refine ⟨fun d hd hf off s l => .intro l ?_, fun c v c1 h => ?_⟩
  · obtain ⟨f, rfl⟩ : ∃ f, fuel = f + 2 := ⟨fuel - 2, by omega⟩
    rcases disc_cases hsup he with ⟨hk, rfl⟩ | ⟨hk, rfl⟩ | ⟨hk, rfl⟩ | ⟨nm, e, hk, rfl, _, hb⟩ <;>
      simp only [scrutOf, hk, discOk, decide_eq_true_eq] at hd ⊢
    · simp only [evalBasic, readPrim, Res.map, readU32_be32 d hd, Res.bind_ok, be32_length]
    · simp only [evalBasic, readPrim, readI32, Res.map, readU32_be32 d hd, Res.bind_ok, be32_length]
    · rcases Nat.le_one_iff_eq_zero_or_eq_one.mp hd with rfl | rfl
      · exact congrArg (·.map Val.bool) (readBool_enc false off s l)
      · exact congrArg (·.map Val.bool) (readBool_enc true off s l)
    · obtain ⟨i, hfi, hemit⟩ := hfind nm _ hb
      have hok := F.typeOk nm _ hb
      obtain ⟨m, hm⟩ := enumMemberName_some hd
      simp only [evalBasic, F.enum_name hb, evalImpl_enum_declared hfi hemit hok,
        readU32_be32 d (by have := enum_value_lt e hok d hd; omega), Res.bind_ok, hm, be32_length]
  · cases fuel with
    | zero => cases h
    | succ f =>
      rcases disc_cases hsup he with ⟨hk, rfl⟩ | ⟨hk, rfl⟩ | ⟨hk, rfl⟩ | ⟨nm, e, hk, rfl, _, hb⟩ <;>
        simp only [scrutOf, hk, discOk, decide_eq_true_eq]
      · obtain ⟨n, h1, rfl⟩ := Res.map_eq_ok h
        obtain ⟨rfl, _, hn, _⟩ := readU32_ok h1
        exact ⟨n, hn, rfl, rfl⟩
      · obtain ⟨i, h1, rfl⟩ := Res.map_eq_ok h
        obtain ⟨n, h2, rfl⟩ := Res.map_eq_ok h1
        obtain ⟨rfl, _, hn, _⟩ := readU32_ok h2
        exact ⟨n, hn, rfl, rfl⟩
      · obtain ⟨b, h1, rfl⟩ := Res.map_eq_ok h
        exact ⟨if b then 1 else 0, by cases b <;> decide, by cases b <;> rfl, (readBool_advsBy c b c1 h1).off⟩
      · obtain ⟨i, hfi, hemit⟩ := hfind nm _ hb
        simp only [evalBasic, F.enum_name hb] at h
        obtain ⟨w, m, hw, hm, rfl, ho⟩ := evalImpl_enum_ok hfi hemit (F.typeOk nm _ hb) h
        exact ⟨w, hw, by rw [hm, F.enum_name hb], ho⟩

theorem label_matches {a : Ast} (F : SFacts a) (u : Union) {disc : BasicDec}
    (he : decodeBasic a u.switch.varType .useTarget = .ok disc) (d : Nat)
    (hd : discOk a (discKind a u.switch.varType) d = true) (l : String)
    (hl : labelKindOk a (discKind a u.switch.varType) l = true) :
    patMatches a (matcherOf a u.switch.varType l) (scrutOf a u d) = (labelValue a l == some d) := by
  have hsup : discKind a u.switch.varType ≠ .unsupported := fun e => by simp [e, discOk] at hd
  rcases disc_cases hsup he with ⟨hk, _⟩ | ⟨hk, _⟩ | ⟨hk, _⟩ | ⟨nm, e, hk, _, _, hb⟩ <;>
    simp only [scrutOf, hk, discOk, decide_eq_true_eq] at hd ⊢ <;> rw [hk] at hl
  · obtain ⟨v, hv, h1, h2, hsn⟩ := labelKindOk_u32 hl
    exact label_matches_int F (sv := .u32 d) rfl (by omega) hv h1 h2 hsn
  · obtain ⟨v, hv, h31, h1, h2, hsn⟩ := labelKindOk_i32 hl
    exact label_matches_int F (sv := .i32 (toSigned 32 d)) rfl (toSigned32_eq_iff hd h31) hv h1 h2 hsn
  · exact label_matches_bool F hd (labelKindOk_bool hl)
  · obtain ⟨m, hm⟩ := enumMemberName_some hd
    rw [hm]
    exact label_matches_enum F hb hm (labelKindOk_enum hl)

theorem selectArm_append (a : Ast) (sv : Val) : ∀ (xs ys : List Arm),
    selectArm a sv (xs ++ ys) = (match selectArm a sv xs with | some r => some r | none => selectArm a sv ys) := by
  intro xs
  induction xs with
  | nil => intro ys; rfl
  | cons x rest ih =>
    intro ys
    simp only [List.cons_append, selectArm]
    split
    · rfl
    · exact ih ys

theorem select_labels {a : Ast} (sv : Val) (d : Nat) (mk : String → Arm) :
    ∀ (ls : List String), (∀ l ∈ ls, patMatches a (mk l).pat sv = (labelValue a l == some d)) →
      selectArm a sv (ls.map mk) = (findCaseLabel a d ls).map mk := by
  intro ls
  induction ls with
  | nil => intro _; rfl
  | cons l rest ih =>
    intro h
    simp only [List.map_cons, selectArm, findCaseLabel, h l List.mem_cons_self]
    split
    · rfl
    · exact ih (fun l' hl' => h l' (List.mem_cons_of_mem _ hl'))

theorem findCaseLabel_mem {a : Ast} {d : Nat} : ∀ {ls : List String} {l : String}, findCaseLabel a d ls = some l → l ∈ ls := by
  intro ls
  induction ls with
  | nil => intro l h; simp [findCaseLabel] at h
  | cons x xs ih =>
    intro l h
    simp only [findCaseLabel] at h
    split at h
    · cases h; exact List.mem_cons_self
    · exact List.mem_cons_of_mem _ (ih h)

theorem select_voids {a : Ast} (swTy : BasicType) (sv : Val) (d : Nat) : ∀ (vs : List String),
    (∀ l ∈ vs, l ≠ "default" → patMatches a (matcherOf a swTy l) sv = (labelValue a l == some d)) →
    "default" ∉ vs.dropLast →
    selectArm a sv (vs.map (emitVoid a swTy)) =
      (match findCaseLabel a d (vs.filter (· != "default")) with
       | some l => some ⟨matcherOf a swTy l, l, none⟩
       | none => if vs.contains "default" then some ⟨.wild, "default", none⟩ else none)
  | [], _, _ => rfl
  | v :: rest, hlm, hlast => by
    by_cases hv : v = "default"
    · -- a `default` stands last, so nothing follows it
      subst hv
      obtain rfl : rest = [] := by
        cases rest with
        | nil => rfl
        | cons w r => exact absurd List.mem_cons_self hlast
      rfl
    · have ih := select_voids swTy sv d rest (fun l hl => hlm l (List.mem_cons_of_mem _ hl)) fun h => by
        cases rest with
        | nil => cases h
        | cons w r => exact hlast (List.mem_cons_of_mem _ h)
      have hne : (v == "default") = false := beq_false_of_ne hv
      have hne' : ("default" == v) = false := beq_false_of_ne (Ne.symm hv)
      simp only [List.map_cons, emitVoid, hne, Bool.false_eq_true, if_false, selectArm, hlm v List.mem_cons_self hv,
        List.filter_cons, bne, Bool.not_false, if_true, findCaseLabel, List.contains_cons, hne', Bool.false_or]
      split
      · rfl
      · exact ih

theorem select_cases {a : Ast} (sw : BasicType) (sv : Val) (d : Nat) : ∀ (cases : List UnionCase),
    (∀ c ∈ cases, ∀ l ∈ c.caseValues, patMatches a (matcherOf a sw l) sv = (labelValue a l == some d)) →
    selectArm a sv (dataArms a sw cases) =
      (findDataCase a d cases).map fun lt => ⟨matcherOf a sw lt.1, lt.1, some (armDec lt.2)⟩
  | [], _ => rfl
  | c :: rest, h => by
    have hsel := select_labels (a := a) sv d (fun l => (⟨matcherOf a sw l, l, some (armDec c.fieldValue)⟩ : Arm))
      c.caseValues (h c List.mem_cons_self)
    have ih := select_cases sw sv d rest fun c' hc' => h c' (List.mem_cons_of_mem _ hc')
    simp only [dataArms, List.map_cons, List.flatten_cons, selectArm_append, findDataCase] at ih ⊢
    rw [hsel]
    cases findCaseLabel a d c.caseValues with
    | some l => rfl
    | none => exact ih

theorem findDataCase_mem {a : Ast} {d : Nat} : ∀ {cs : List UnionCase} {l : String} {ty : ArrayType},
    findDataCase a d cs = some (l, ty) → ∃ c ∈ cs, c.fieldValue = ty ∧ l ∈ c.caseValues
  | [], _, _, h => by cases h
  | c :: rest, l, ty, h => by
    simp only [findDataCase] at h
    split at h
    · rename_i hl
      cases h
      exact ⟨c, List.mem_cons_self, rfl, findCaseLabel_mem hl⟩
    · obtain ⟨c', hc', e⟩ := findDataCase_mem h
      exact ⟨c', List.mem_cons_of_mem _ hc', e⟩

theorem selectDeclared_armOk {a : Ast} {u : Union} (hu : unionOk a u = true) {d : Nat} {l : String} {ty : ArrayType}
    (h : selectDeclared a u d = .data l ty) : armTypeOk a ty = true := by
  obtain ⟨_, harms, hdef, _, _⟩ := unionOk_facts hu
  simp only [selectDeclared] at h
  split at h
  · rename_i hfd
    cases h
    obtain ⟨c, hc, rfl, _⟩ := findDataCase_mem hfd
    exact harms c hc
  · split at h
    · cases h
    · split at h
      · rename_i dc hdf
        cases h
        exact (hdef dc hdf).1
      · split at h <;> cases h

/-- C06 (match selects).  Each label's pattern matches exactly its value (`label_matches`), so the arm list (data labels,
    void labels, tail) selects as `findDataCase`, `findCaseLabel` and the default do; the case analysis is `selectDeclared`'s. -/
theorem match_selects_of_supported {a : Ast} {m : Module} (hs : Supported a = true) (hg : generateModule a = .ok m) :
    MatchSelects a m.plans := by
  have F := sfacts_of_supported hs
  have hfind := fun n ty (hb : bget n a.types = some ty) => find_impl_of_types hg F.keys hb
  intro n u i ud hb hfi hbody d hd
  obtain ⟨i', hfi', hemit⟩ := hfind n _ hb
  cases Option.some.inj (hfi.symm.trans hfi')
  have hu : unionOk a u = true := F.typeOk n _ hb
  obtain ⟨disc, hdisc, hbody'⟩ := emitImpl_union_ok hu hemit
  cases ImplBody.union.inj (hbody.symm.trans hbody')
  obtain ⟨hk, harms, hdef, hlab, hlast⟩ := unionOk_facts hu
  have hne := unionOk_labels_ne_default hu
  have hmatch : ∀ l ∈ allLabels u,
      patMatches a (matcherOf a u.switch.varType l) (scrutOf a u d) = (labelValue a l == some d) :=
    fun l hl => label_matches F u hdisc d hd l (hlab l hl)
  refine ⟨fun fuel => (disc_reads F hfind u hk hdisc (fuel + 2)).complete d hd (Nat.le_add_left 2 fuel), ?_⟩
  have hC := select_cases u.switch.varType (scrutOf a u d) d u.cases
    (fun c hc l hl => hmatch l (allLabels_mem_case hc hl))
  have hV := select_voids u.switch.varType (scrutOf a u d) d u.voidCases
    (fun l hl hne => hmatch l (allLabels_mem_void hl hne)) hlast
  simp only [unionPlan, selectDeclared, selectArm_append, hC, hV]
  cases hfd : findDataCase a d u.cases with
  | some lt =>
    obtain ⟨lab, ty⟩ := lt
    obtain ⟨c, hc, rfl, hlc⟩ := findDataCase_mem hfd
    simp only [Option.map_some, hne c hc lab hlc, if_false]
    exact ⟨_, _, rfl, rfl, rfl, decodeArray_arm (harms c hc), elemOk_of_armTypeOk (harms c hc)⟩
  | none =>
    simp only [Option.map_none]
    cases hfv : findCaseLabel a d (u.voidCases.filter (· != "default")) with
    | some lab => exact ⟨_, rfl, rfl, rfl⟩
    | none =>
      simp only
      cases hdf : u.default with
      | some dc =>
        obtain ⟨hdc, hnov⟩ := hdef dc hdf
        simp only [hnov, Bool.false_eq_true, if_false, if_true, unionTail, hdf]
        exact ⟨trivial, _, rfl, decodeArray_arm hdc, elemOk_of_armTypeOk hdc⟩
      | none =>
        simp only [unionTail, hdf]
        cases u.voidCases.contains "default" with
        | true => exact ⟨_, rfl, rfl, rfl⟩
        | false => exact ⟨rfl, rfl⟩

theorem rt_of_supported {a : Ast} {m : Module} (hs : Supported a = true) (hg : generateModule a = .ok m) : RT a m.plans := by
  have F := sfacts_of_supported hs
  exact ⟨plansFor_of_supported hs hg, fun n ty hb => find_impl_of_types hg F.keys hb,
    fun n ty hb => ⟨F.typeOk n ty hb, (F.keys (n, ty) (mem_of_bget hb)).symm⟩, (supported_plans hs hg).2, match_selects_of_supported hs hg⟩

section arms
variable {a : Ast} {P : Plans} (hms : MatchSelects a P) {n : String} {u : Union} {i : Impl} {ud : UnionDec}
  (hb : bget n a.types = some (.union u)) (hfi : P.findImpl n = some i) (hbody : i.body = .union ud) {d : Nat}
  (hd : discOk a (discKind a u.switch.varType) d = true)
include hms hb hfi hbody hd

theorem MatchSelects.disc (fuel off : Nat) (s : List Byte) (l : List Ev) :
    DecOk (evalBasic a P (fuel + 2) ud.disc ⟨off, be32 d ++ s, l⟩) (scrutOf a u d) (off + 4) s :=
  (hms n u i ud hb hfi hbody d hd).1 fuel off s l

theorem evalArms_data {lab : String} {ty : ArrayType} (hsd : selectDeclared a u d = .data lab ty) :
    ∃ fd, decodeArray a ty .useAlias = .ok fd ∧ ∀ fuel c1, evalArms a P fuel n ud (scrutOf a u d) c1 =
      (evalField a P fuel fd c1).bind fun v c2 => .ok (.tuple n (docVariantName lab) v) c2 := by
  have hsel := (hms n u i ud hb hfi hbody d hd).2
  simp only [hsd] at hsel
  by_cases hlab : lab = "default"
  · simp only [hlab, if_true] at hsel
    obtain ⟨hnone, fd, htail, hfd, _⟩ := hsel
    refine ⟨fd, hfd, fun _ _ => ?_⟩
    simp only [evalArms, hnone, htail, hlab]
    rfl
  · simp only [hlab, if_false] at hsel
    obtain ⟨arm, fd, hsome, hvar, hpay, hfd, _⟩ := hsel
    refine ⟨fd, hfd, fun _ _ => ?_⟩
    simp only [evalArms, hsome, hpay, hvar]
    rfl

theorem evalArms_void {lab : String} (hsd : selectDeclared a u d = .void lab) (fuel : Nat) (c1 : Cur) :
    evalArms a P fuel n ud (scrutOf a u d) c1 = .ok (.unit n (docVariantName lab)) c1 := by
  have hsel := (hms n u i ud hb hfi hbody d hd).2
  simp only [hsd] at hsel
  obtain ⟨arm, hsome, hvar, hpay⟩ := hsel
  simp only [evalArms, hsome, hpay, hvar]
  rfl

theorem evalArms_noArm (hsd : selectDeclared a u d = .noArm) (fuel : Nat) (c1 : Cur) :
    evalArms a P fuel n ud (scrutOf a u d) c1 = .err (.unknownVariant (asI32 a (scrutOf a u d))) c1.log := by
  have hsel := (hms n u i ud hb hfi hbody d hd).2
  simp only [hsd] at hsel
  simp only [evalArms, hsel.1, hsel.2]

end arms

end Fx
