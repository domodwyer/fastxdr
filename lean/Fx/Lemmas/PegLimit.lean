/-
  Fx.Lemmas.PegLimit — the parser's answer without a budget.  The grammar is a DAG, so the interpreter answers from some
  budget on (`parse_terminates`), and the answer does not change with more (`evalRule_lift`): every text has *the* answer
  `parseLim`, and `Ast.newLim` is the front end over it.  The executable `Ast.new` (run at `fuelFor |text|`; T3 ties it to the
  real `Ast::new` and reports an exhausted budget as a broken tie) equals it wherever it answers.
-/
import Fx.Lemmas.PegTerm
import Fx.Lemmas.PegRel
import Fx.Index
namespace Fx
open Peg

/-- the grammar translated from `src/xdr.pest` on this run has no recursion among its rules (closed term, `decide`) -/
theorem xdr_grammar_is_dag : Peg.dag Grammar.xdr = true := by decide

theorem parse_answer_exists (txt : List Char) :
    ∃ r : PR, r ≠ .outOfFuel ∧ ∃ F, ∀ f, F ≤ f → evalRule Grammar.xdr f false "item" ⟨0, txt⟩ = r := by
  obtain ⟨F, hF⟩ := Peg.parse_terminates Grammar.xdr _ (Peg.dag_ranked _ xdr_grammar_is_dag) txt.length
  have h0 := hF "item" ⟨0, txt⟩ (Nat.le_refl _) F (Nat.le_refl _)
  exact ⟨_, h0, F, fun f hf => Peg.evalRule_lift _ rfl hf h0⟩

/-- **the answer of the parser** on a text (`XDRParser::parse(Rule::item, text)`), independent of any budget -/
noncomputable def Peg.parseLim (txt : List Char) : PR := Classical.choose (parse_answer_exists txt)

theorem Peg.parseLim_ne (txt : List Char) : parseLim txt ≠ .outOfFuel := (Classical.choose_spec (parse_answer_exists txt)).1

theorem Peg.parseLim_spec (txt : List Char) : ∃ F, ∀ f, F ≤ f → evalRule Grammar.xdr f false "item" ⟨0, txt⟩ = parseLim txt :=
  (Classical.choose_spec (parse_answer_exists txt)).2

theorem Peg.evalRule_eq_parseLim (txt : List Char) (f : Nat) (h : evalRule Grammar.xdr f false "item" ⟨0, txt⟩ ≠ .outOfFuel) :
    evalRule Grammar.xdr f false "item" ⟨0, txt⟩ = parseLim txt := by
  obtain ⟨F, hF⟩ := parseLim_spec txt
  rw [← hF (max F f) (Nat.le_max_left _ _)]
  exact (Peg.evalRule_lift _ rfl (Nat.le_max_right _ _) h).symm

theorem Peg.parseLim_of_ROk {txt : List Char} {s' : St} {ts : List Pair}
    (h : ROk Grammar.xdr false "item" ⟨0, txt⟩ s' ts) : parseLim txt = .ok s' ts := by
  obtain ⟨f, hf⟩ := h
  rw [← evalRule_eq_parseLim txt f (by rw [hf]; simp), hf]

/-- **`Ast::new` without a budget** -/
noncomputable def Ast.newLim (txt : String) : FrontRes :=
  match Peg.parseLim txt.toList with
  | .fail => .err
  | .outOfFuel => .outOfFuel
  | .ok _ ps =>
    match Ast.ofPairs ps with
    | .ok a => .ok a
    | .panicAt f m => .panicAt f m

end Fx
namespace Fx.C12

def frontOf : Out Ast → FrontRes
  | .ok a => .ok a
  | .panicAt f m => .panicAt f m

end Fx.C12
namespace Fx
open Peg C12

/-- what `Ast::new` makes of the parser's answer.  `Ast.new` (the model) and `Ast.newLim` (on which the C11/C12/C14 statements
    rest) write this `match` out; proofs see them only through `Ast.new_eq` / `Ast.newLim_eq` -/
def Ast.ofParse : PR → FrontRes
  | .fail => .err
  | .outOfFuel => .outOfFuel
  | .ok _ ps => frontOf (Ast.ofPairs ps)

theorem Ast.new_eq (txt : String) : Ast.new txt = Ast.ofParse (parseWith Grammar.xdr "item" txt.toList) := by
  rw [Ast.new]
  -- the parse is abstracted first: `rfl` on the terms as they stand would start running the parser
  generalize parseWith Grammar.xdr "item" txt.toList = r
  cases r <;> rfl

theorem Ast.newLim_eq (txt : String) : Ast.newLim txt = Ast.ofParse (parseLim txt.toList) := rfl

theorem Ast.ofParse_eq_outOfFuel {r : PR} (h : Ast.ofParse r = .outOfFuel) : r = .outOfFuel := by
  cases r with
  | fail => cases h
  | outOfFuel => rfl
  | ok s ps =>
    rw [Ast.ofParse] at h
    cases ho : Ast.ofPairs ps <;> rw [ho] at h <;> cases h

theorem Ast.newLim_ne_outOfFuel (txt : String) : Ast.newLim txt ≠ .outOfFuel :=
  fun h => Peg.parseLim_ne txt.toList (Ast.ofParse_eq_outOfFuel h)

theorem Ast.new_eq_newLim (txt : String) (h : Ast.new txt ≠ .outOfFuel) : Ast.new txt = Ast.newLim txt := by
  rw [Ast.new_eq, Ast.newLim_eq]
  exact congrArg Ast.ofParse (Peg.evalRule_eq_parseLim _ _ fun e => h (by rw [Ast.new_eq, show parseWith _ _ _ = _ from e]; rfl))

theorem Ast.new_cases (txt : String) : Ast.new txt = .outOfFuel ∨ Ast.new txt = Ast.newLim txt :=
  (Classical.em _).imp id (Ast.new_eq_newLim txt)

theorem Ast.newLim_of_ROk {txt : List Char} {s' : St} {ts : List Pair} (h : ROk Grammar.xdr false "item" ⟨0, txt⟩ s' ts) :
    Ast.newLim (String.ofList txt) = frontOf (Ast.ofPairs ts) := by
  rw [Ast.newLim_eq, String.toList_ofList, Peg.parseLim_of_ROk h, Ast.ofParse]

end Fx
