/-
  Fx.Lemmas.KnownPanics — the typing of the grammar (Lemmas/WalkTotal) applied to what the parser returns: for every text
  the front end, run on the parser's answer, succeeds or stops at one of the five known sites.
-/
import Fx.Lemmas.WalkTotal
import Fx.Lemmas.Bins
import Fx.Lemmas.ParseRules
import Fx.Lemmas.PegLimit
namespace Fx
open Peg Nodes

theorem itemsOf_decls (ns : List Node) (h : ∀ n ∈ ns, IsDecl n ∨ n = .eof) : ∃ items, itemsOf ns = .ok items :=
  Out.isOk_iff.mp (itemsOf_ok ns fun n hn => by
    rcases h n hn with (⟨a, b, rfl⟩ | ⟨t, rfl⟩ | ⟨e, rfl⟩ | ⟨sv, rfl⟩ | ⟨u, rfl⟩) | rfl <;>
      simp [ItemNode, itemOf, Node.identStr, Out.isOk])

theorem ofItems_good (items : List Item) : Good (Ast.ofItems items) (fun _ => True) := by
  simp only [Ast.ofItems, ConstantIndex.new]
  rcases constInsertAll_ok_or_dup (constEntries items) [] with h | h
  · rw [h]
    trivial
  · rw [h]
    exact known_d

theorem item_single {ps : List Pair} (h : Shape Grammar.xdr false (.ref "item") ps) : ∃ p, ps = [p] := by
  cases h with
  | refSkip hw =>
    rw [Parse.has_item.2] at hw
    cases hw
  | refSilent hf _ hs _ =>
    rw [Parse.has_item.1] at hf
    cases hf
    cases hs
  | refNormal => exact ⟨_, rfl⟩
  | refAtomic => exact ⟨_, rfl⟩

theorem ofPairs_good {ps : List Pair} (h : Shape Grammar.xdr false (.ref "item") ps) : Good (Ast.ofPairs ps) (fun _ => True) := by
  have hw := walk_typed nodeTy_layout xdr_typed h rfl ⟨_, nodeTy_item⟩
  obtain ⟨p, rfl⟩ := item_single h
  simp only [Den, nodeTy_item, NTy.den, walkAll_single] at hw
  rw [Ast.ofPairs]
  refine hw.of_bind.bind fun n hn => ?_
  obtain ⟨l, rfl, hl⟩ := (one_singleton _ _).mp hn
  obtain ⟨items, hi⟩ := itemsOf_decls l hl
  simp only [hi, Out.bind_ok]
  exact ofItems_good items

theorem Ast.ofParse_eq_panic {r : PR} {f m : String} (h : Ast.ofParse r = .panicAt f m) :
    ∃ s ps, r = .ok s ps ∧ Ast.ofPairs ps = .panicAt f m := by
  cases r with
  | fail => cases h
  | outOfFuel => cases h
  | ok s ps =>
    rw [Ast.ofParse] at h
    cases ho : Ast.ofPairs ps with
    | ok a =>
      rw [ho] at h
      cases h
    | panicAt f' m' =>
      rw [ho] at h
      cases h
      exact ⟨s, ps, rfl, ho⟩

theorem Ast.ofParse_known_panics {fuel : Nat} {txt : List Char} {r : PR} {f m : String}
    (hr : evalRule Grammar.xdr fuel false "item" ⟨0, txt⟩ = r) (h : Ast.ofParse r = .panicAt f m) : (f, m) ∈ knownSites := by
  obtain ⟨s, ps, rfl, ho⟩ := Ast.ofParse_eq_panic h
  have hg := ofPairs_good (Peg.evalRule_shape hr)
  rwa [ho] at hg

/-- the executable front end, at the budget it runs with: no termination argument is needed -/
theorem Ast.new_known_panics (txt : String) (f m : String) (h : Ast.new txt = .panicAt f m) : (f, m) ∈ knownSites :=
  Ast.ofParse_known_panics rfl (Ast.new_eq txt ▸ h)

theorem Ast.newLim_known_panics (txt : String) (f m : String) (h : Ast.newLim txt = .panicAt f m) : (f, m) ∈ knownSites := by
  obtain ⟨F, hF⟩ := Peg.parseLim_spec txt.toList
  exact Ast.ofParse_known_panics (hF F (Nat.le_refl _)) (Ast.newLim_eq txt ▸ h)

end Fx
