/-
  Fx.Lemmas.Fuel — the `fuel` argument is only a recursion budget: an answer other than `outOfFuel` is the answer at every larger
  budget.  Lemmas/Limits is the same argument with `Err(InvalidLength)` in the place of `outOfFuel`; both compare two runs, so
  neither is an instance of `eval_closed`, which speaks of one.
-/
import Fx.Lemmas.EvalBasics
namespace Fx

def Res.Upto {α} (r r' : Res α) : Prop := r ≠ .outOfFuel → r' = r

theorem Res.Upto.refl {α} {r : Res α} : r.Upto r := fun _ => rfl

theorem Res.Upto.bind {α β} {r r' : Res α} {k k' : α → Cur → Res β} (hr : r.Upto r') (hk : ∀ v c, (k v c).Upto (k' v c)) :
    (r.bind k).Upto (r'.bind k') := by
  intro h
  have hne : r ≠ .outOfFuel := fun e => h (e ▸ rfl)
  rw [hr hne]
  cases r with
  | ok v c => exact hk v c h
  | _ => rfl

theorem arrLoop_upto (dec dec' : Cur → Res Val) (ws : Val → Nat) (hd : ∀ c, (dec c).Upto (dec' c)) (k : Nat) :
    ∀ (c : Cur) (sum : Nat) (acc : Vals), (arrLoop dec ws k c sum acc).Upto (arrLoop dec' ws k c sum acc) := by
  induction k with
  | zero => exact fun _ _ _ => .refl
  | succ k ih =>
    intro c sum acc
    rw [arrLoop_succ, arrLoop_succ]
    refine .bind (hd c) fun t ct => ?_
    split
    · exact .refl
    · exact ih _ _ _

theorem readVariableArray_upto {dec dec' : Cur → Res Val} {ws : Val → Nat} (m : Option Nat) (hd : ∀ c, (dec c).Upto (dec' c))
    (c : Cur) : (readVariableArray dec ws m c).Upto (readVariableArray dec' ws m c) := by
  refine .bind .refl fun n c1 => ?_
  split
  · exact .refl
  · exact .bind (arrLoop_upto dec dec' ws hd n _ 0 .nil) fun _ _ => .refl

theorem evalOpt_upto {eI eI' : Cur → Res Val} (h : ∀ c, (eI c).Upto (eI' c)) (c : Cur) : (evalOpt eI c).Upto (evalOpt eI' c) := by
  refine .bind .refl fun m c1 => ?_
  split
  · exact .refl
  · split
    · exact .bind (h c1) fun _ _ => .refl
    · exact .refl

theorem eval_fuel_succ (a : Ast) (p : Plans) (f : Nat) :
    Evals (fun n => ∀ c, (evalImpl a p f n c).Upto (evalImpl a p (f + 1) n c))
      (fun b => ∀ c, (evalBasic a p f b c).Upto (evalBasic a p (f + 1) b c))
      (fun fd => ∀ c, (evalField a p f fd c).Upto (evalField a p (f + 1) fd c))
      (fun k b => ∀ c, (evalRepeat a p f k b c).Upto (evalRepeat a p (f + 1) k b c))
      (fun fs => ∀ c, (evalFields a p f fs c).Upto (evalFields a p (f + 1) fs c)) := by
  induction f with
  | zero => exact ⟨fun _ _ h => absurd rfl h, fun _ _ h => absurd rfl h, fun _ _ h => absurd rfl h,
      fun _ _ _ h => absurd rfl h, fun _ _ h => absurd rfl h⟩
  | succ f ih =>
    obtain ⟨ihI, ihB, ihF, ihR, ihFs⟩ := ih
    refine ⟨fun n c => ?_, fun b c => ?_, fun fd c => ?_, fun k b c => ?_, fun fs c => ?_⟩
    · cases hfi : p.findImpl n with
      | none =>
        rw [evalImpl_none hfi, evalImpl_none hfi]
        exact .refl
      | some i =>
        cases hb : i.body with
        | struct fs =>
          rw [evalImpl_struct hfi hb, evalImpl_struct hfi hb]
          exact .bind (ihFs _ c) fun _ _ => .refl
        | union u =>
          rw [evalImpl_union hfi hb, evalImpl_union hfi hb]
          refine .bind (ihB _ c) fun d c1 => ?_
          unfold evalArms
          cases selectArm a d u.arms with
          | some arm =>
            dsimp only
            cases arm.payload with
            | some fd => exact .bind (ihF _ c1) fun _ _ => .refl
            | none => exact .refl
          | none =>
            dsimp only
            cases u.tail with
            | defaultData fd => exact .bind (ihF _ c1) fun _ _ => .refl
            | _ => exact .refl
        | enum arms =>
          rw [evalImpl_enum hfi hb, evalImpl_enum hfi hb]
          exact .refl
        | typedef fd =>
          rw [evalImpl_typedef hfi hb, evalImpl_typedef hfi hb]
          exact .bind (ihF _ c) fun _ _ => .refl
    · cases b with
      | tryFrom n => exact ihI n c
      | _ => exact .refl
    · cases fd with
      | one b => exact ihB b c
      | fixedArr n b => exact .bind (ihR n b c) fun _ _ => .refl
      | varArr ty g m => exact readVariableArray_upto m (ihI ty) c
      | _ => exact .refl
    · cases k with
      | zero => exact .refl
      | succ k => exact .bind (ihB b c) fun v c1 => .bind (ihR k b c1) fun _ _ => .refl
    · cases fs with
      | nil => exact .refl
      | cons fld rest =>
        rw [evalFields_cons, evalFields_cons]
        refine .bind ?_ fun v c1 => .bind (ihFs rest c1) fun _ _ => .refl
        cases fld with
        | plain nm fd => exact ihF fd c
        | optional nm ty => exact evalOpt_upto (ihI ty) c

theorem evalImpl_fuel_mono (a : Ast) (p : Plans) (n : String) (c : Cur) (f g : Nat) (hfg : f ≤ g)
    (h : evalImpl a p f n c ≠ .outOfFuel) : evalImpl a p g n c = evalImpl a p f n c := by
  induction hfg with
  | refl => rfl
  | step _ ih => rw [← ih]; exact (eval_fuel_succ a p _).impl n c (ih ▸ h)

end Fx
