/-
  Fx.Lemmas.EmitTotal — the emitters have one panic site (`unreachable!("unexpected fixed length string")`, finding K6.e);
  every other outcome of `Generator::generate` after a successful `Ast::new` is `Ok` or `Err`.
-/
import Fx.Emit
namespace Fx

def G1 {α} (g : G α) : Prop := ∀ f m, g = .panicAt f m → f = "from.rs" ∧ m = "unexpected fixed length string"

theorem G1.ok {α} {x : α} : G1 (G.ok x) := fun _ _ h => by cases h
theorem G1.err {α} (e : String) : G1 (G.err e : G α) := fun _ _ h => by cases h

theorem G1.bind {α β} {g : G α} {k : α → G β} (h1 : G1 g) (h2 : ∀ x, G1 (k x)) : G1 (g.bind k) := by
  cases g with
  | ok x => exact h2 x
  | err e => exact G1.err e
  | panicAt f0 m0 => intro f m h; exact h1 f m (by simpa [G.bind] using h)

theorem G1.mapG {α β} {k : α → G β} (hk : ∀ x, G1 (k x)) {l : List α} : G1 (mapG k l) := by
  induction l with
  | nil => exact G1.ok
  | cons x xs ih =>
    simp only [Fx.mapG]
    exact G1.bind (hk x) (fun b => G1.bind ih (fun bs => G1.ok))

theorem decodeBasic_g1 (a : Ast) (t : BasicType) (r : TypeResolve) : G1 (decodeBasic a t r) := by
  intro f m h
  unfold decodeBasic at h
  split at h
  · split at h <;> cases h
  · cases h

theorem resolveSize_g1 (a : Ast) (s : ArraySize) : G1 (resolveSize a s) := by
  intro f m h
  cases s with
  | known n => cases h
  | constant c =>
    simp only [resolveSize] at h
    split at h
    · split at h <;> cases h
    · cases h

theorem printFixed_g1 (a : Ast) (t : BasicType) (n : Nat) (r : TypeResolve) : G1 (printFixed a t n r) := by
  intro f m h
  simp only [printFixed] at h
  split at h
  · cases h
  · injection h with h1 h2; exact ⟨h1.symm, h2.symm⟩
  · split at h
    · cases h
    · exact G1.bind (decodeBasic_g1 a t r) (fun b => G1.ok) f m h

theorem printVariable_g1 (a : Ast) (t : BasicType) (sz : Option Nat) (r : TypeResolve) : G1 (printVariable a t sz r) := by
  intro f m h
  simp only [printVariable] at h
  split at h <;> cases h

theorem decodeArray_g1 (a : Ast) (at_ : ArrayType) (r : TypeResolve) : G1 (decodeArray a at_ r) := by
  cases at_ with
  | none t => exact G1.bind (decodeBasic_g1 a t r) (fun b => G1.ok)
  | fixed t sz => exact G1.bind (resolveSize_g1 a sz) (fun n => printFixed_g1 a t n r)
  | «variable» t m =>
    cases m with
    | none => exact printVariable_g1 a t none r
    | some sz => exact G1.bind (resolveSize_g1 a sz) (fun n => printVariable_g1 a t (some n) r)

theorem emitStructField_g1 (a : Ast) (fld : StructField) : G1 (emitStructField a fld) := by
  simp only [emitStructField]
  split
  · exact G1.ok
  · exact G1.bind (decodeArray_g1 a _ _) (fun d => G1.ok)

theorem emitCase_g1 (a : Ast) (sw : BasicType) (c : UnionCase) : G1 (emitCase a sw c) :=
  G1.bind (decodeArray_g1 a _ _) (fun _ => G1.ok)

theorem emitUnion_g1 (a : Ast) (u : Union) : G1 (emitUnion a u) := by
  simp only [emitUnion]
  refine G1.bind (decodeBasic_g1 a _ _) (fun disc => G1.bind (G1.mapG (emitCase_g1 a _)) (fun arms => ?_))
  refine G1.bind ?_ (fun tail => G1.ok)
  split
  · exact G1.bind (decodeArray_g1 a _ _) (fun dd => G1.ok)
  · exact G1.ok

theorem emitImpl_g1 (a : Ast) (t : AstType) : G1 (emitImpl a t) := by
  cases t with
  | struct s => exact G1.bind (G1.mapG (emitStructField_g1 a)) (fun fs => G1.ok)
  | union u => exact G1.bind (emitUnion_g1 a u) (fun ud => G1.ok)
  | enum e => exact G1.ok
  | typedef td => exact G1.bind (decodeArray_g1 a _ _) (fun d => G1.ok)

/-- `Generator::generate` after `Ast::new`: Ok, Err, or the one known panic (K6.e) -/
theorem generateModule_g1 (a : Ast) : G1 (generateModule a) := by
  simp only [generateModule, emitFrom]
  exact G1.bind (G1.mapG (emitImpl_g1 a)) (fun f1 => G1.bind (G1.mapG (emitImpl_g1 a)) (fun f2 => G1.ok))

end Fx
