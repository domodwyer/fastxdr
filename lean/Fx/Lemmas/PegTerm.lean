/-
  Fx.Lemmas.PegTerm — the parser terminates: for a grammar whose rules can be ranked so that a rule only refers to rules of
  lower rank, every input has a budget from which on the answer is never `outOfFuel`.  References go down in rank, and a
  repetition (`e*`, `e+`, the implicit skip) stops at an iteration without progress: at most one per remaining character.
  `x_ans` reads "`x` is an answer": not `outOfFuel`.
-/
import Fx.Lemmas.PegEval
namespace Fx.Peg

-- Not `Fx.Adv` (Lemmas/Advance), the decoders' progress on a byte cursor.

def Adv (s s' : St) : Prop := s'.pos + s'.rest.length = s.pos + s.rest.length ∧ s.pos ≤ s'.pos

theorem Adv.refl (s : St) : Adv s s := ⟨rfl, Nat.le_refl _⟩
theorem Adv.trans {a b c : St} (h1 : Adv a b) (h2 : Adv b c) : Adv a c := ⟨by rw [h2.1, h1.1], Nat.le_trans h1.2 h2.2⟩
theorem Adv.rest_le {a b : St} (h : Adv a b) : b.rest.length ≤ a.rest.length := by
  obtain ⟨h1, h2⟩ := h
  omega
theorem Adv.lt_of_ne {a b : St} (h : Adv a b) (hne : b.pos ≠ a.pos) : b.rest.length < a.rest.length := by
  obtain ⟨h1, h2⟩ := h
  omega

theorem Adv.next (p : Nat) (d : Char) (ds : List Char) : Adv ⟨p, d :: ds⟩ ⟨p + 1, ds⟩ :=
  ⟨by simp only [List.length_cons]; omega, Nat.le_succ p⟩

theorem matchStr_adv : ∀ {t : List Char} {s s' : St}, matchStr t s = some s' → Adv s s'
  | [], s, s', h => by
    cases h
    exact Adv.refl s
  | c :: cs, ⟨p, []⟩, s', h => by
    simp [matchStr] at h
  | c :: cs, ⟨p, d :: ds⟩, s', h => by
    simp only [matchStr] at h
    split at h
    · exact (Adv.next p d ds).trans (matchStr_adv h)
    · cases h

def PRAdv (s : St) : PR → Prop
  | .ok s' _ => Adv s s'
  | _ => True

theorem PRAdv_eq (s : St) : PRAdv s = PR.Sat fun s' _ => Adv s s' := rfl

theorem progress (g : Grammar) (fuel : Nat) :
    (∀ atomic e s, PRAdv s (eval g fuel atomic e s)) ∧
    (∀ atomic e s acc, PRAdv s (repeatMore g fuel atomic e s acc)) ∧
    (∀ atomic n s, PRAdv s (evalRule g fuel atomic n s)) ∧
    (∀ s, PRAdv s (skipWs g fuel s)) ∧
    (∀ s, PRAdv s (skip g fuel s)) := by
  simp only [PRAdv_eq]
  induction fuel with
  | zero =>
    simp only [eval_zero, repeatMore_zero, evalRule_zero, skipWs_zero, skip_zero]
    exact ⟨fun _ _ _ => trivial, fun _ _ _ _ => trivial, fun _ _ _ => trivial, fun _ => trivial, fun _ => trivial⟩
  | succ f ih =>
    obtain ⟨ihE, ihR, ihU, ihW, ihS⟩ := ih
    have ihK : ∀ a s, (skipIf g f a s).Sat fun s' _ => Adv s s' := by
      intro a s
      cases a with
      | false => exact ihS s
      | true => exact Adv.refl s
    refine ⟨fun atomic e s => ?_, fun atomic e s acc => ?_, fun atomic n s => ?_, fun s => ?_, fun s => ?_⟩
    · cases e with
      | str t =>
        rw [eval_str]
        exact ofOpt_sat fun _ => matchStr_adv
      | any =>
        obtain ⟨p, rest⟩ := s
        rw [eval_any]
        cases rest with
        | nil => trivial
        | cons d ds => exact Adv.next p d ds
      | digit =>
        obtain ⟨p, rest⟩ := s
        rw [eval_digit]
        cases rest with
        | nil => trivial
        | cons d ds => exact PR.Sat.ite (Adv.next p d ds) trivial
      | alnum =>
        obtain ⟨p, rest⟩ := s
        rw [eval_alnum]
        cases rest with
        | nil => trivial
        | cons d ds => exact PR.Sat.ite (Adv.next p d ds) trivial
      | soi =>
        rw [eval_soi]
        exact PR.Sat.ite (Adv.refl s) trivial
      | eoi =>
        rw [eval_eoi]
        exact PR.Sat.ite (PR.Sat.ite (Adv.refl s) (Adv.refl s)) trivial
      | newline =>
        rw [eval_newline]
        cases h1 : matchStr ['\n'] s with
        | some s' => exact matchStr_adv h1
        | none =>
          cases h2 : matchStr ['\r', '\n'] s with
          | some s' => exact matchStr_adv h2
          | none => exact ofOpt_sat fun _ => matchStr_adv
      | ref n =>
        rw [eval_ref]
        exact ihU atomic n s
      | seq a b =>
        rw [eval_seq]
        exact (ihE atomic a s).on (fun s1 _ h1 => (ihK atomic s1).on (fun s1' _ h2 => (ihE atomic b s1').on
          (fun _ _ h3 => h1.trans (h2.trans h3)) trivial) trivial) trivial
      | alt a b =>
        rw [eval_alt]
        exact (ihE atomic a s).on (fun _ _ h => h) (ihE atomic b s)
      | opt e =>
        rw [eval_opt]
        exact (ihE atomic e s).on (fun _ _ h => h) (Adv.refl s)
      | not e =>
        rw [eval_not]
        exact (ihE atomic e s).on (fun _ _ _ => trivial) (Adv.refl s)
      | star e =>
        rw [eval_star]
        exact (ihE atomic e s).on (fun s1 t1 h1 => (ihR atomic e s1 t1).mono fun _ _ => h1.trans) (Adv.refl s)
      | plus e =>
        rw [eval_plus]
        exact ihE atomic (.seq e (.star e)) s
    · rw [repeatMore_succ]
      exact (ihK atomic s).on (fun s' _ h2 => (ihE atomic e s').on (fun s2 t2 h3 =>
        PR.Sat.ite (Adv.refl s) ((ihR atomic e s2 _).mono fun _ _ h => h2.trans (h3.trans h))) (Adv.refl s)) (Adv.refl s)
    · rw [evalRule_succ]
      cases g.find n with
      | none => trivial
      | some r =>
        simp only
        split
        · exact (ihE true r.body s).on (fun _ _ h => h) trivial
        · cases r.ty with
          | silent => exact ihE atomic r.body s
          | normal => exact (ihE atomic r.body s).on (fun _ _ h => PR.Sat.ite h h) trivial
          | atomic => exact (ihE true r.body s).on (fun _ _ h => PR.Sat.ite h h) trivial
    · rw [skipWs_succ]
      exact (ihU true "WHITESPACE" s).on (fun s' _ h1 => PR.Sat.ite (Adv.refl s) ((ihW s').mono fun _ _ => h1.trans)) (Adv.refl s)
    · rw [skip_succ]
      exact (ihW s).on (fun s1 _ h1 => (ihU true "COMMENT" s1).on
        (fun s2 _ h2 => PR.Sat.ite h1 ((ihS s2).mono fun _ _ h => h1.trans (h2.trans h))) h1) trivial

theorem eval_adv {g : Grammar} {f a e s s' ts} (h : eval g f a e s = .ok s' ts) : Adv s s' := by
  have := (progress g f).1 a e s
  rwa [h] at this

theorem evalRule_adv {g : Grammar} {f a n s s' ts} (h : evalRule g f a n s = .ok s' ts) : Adv s s' := by
  have := (progress g f).2.2.1 a n s
  rwa [h] at this

theorem skipWs_adv {g : Grammar} {f s s' ts} (h : skipWs g f s = .ok s' ts) : Adv s s' := by
  have := (progress g f).2.2.2.1 s
  rwa [h] at this

theorem skipIf_adv {g : Grammar} {f a s s' ts} (h : skipIf g f a s = .ok s' ts) : Adv s s' := by
  cases a with
  | true =>
    cases h
    exact Adv.refl s
  | false =>
    have := (progress g f).2.2.2.2 s
    rwa [show skip g f s = _ from h] at this

theorem ok_ans {s : St} {t : List Pair} : PR.ok s t ≠ .outOfFuel := fun h => nomatch h
theorem fail_ans : PR.fail ≠ .outOfFuel := fun h => nomatch h

theorem ofOpt_ans {o : Option St} : ofOpt o ≠ .outOfFuel := by
  cases o with
  | none => exact fail_ans
  | some s => exact ok_ans

theorem ite_ans {c : Prop} [Decidable c] {r r' : PR} (h : r ≠ .outOfFuel) (h' : r' ≠ .outOfFuel) :
    (if c then r else r') ≠ .outOfFuel := by
  split <;> assumption

theorem PR.on_ans {r : PR} {k : St → List Pair → PR} {d : PR} (hr : r ≠ .outOfFuel) (hk : ∀ s t, r = .ok s t → k s t ≠ .outOfFuel)
    (hd : d ≠ .outOfFuel) : r.on k d ≠ .outOfFuel := by
  cases r with
  | ok s t => exact hk s t rfl
  | fail => exact hd
  | outOfFuel => exact absurd rfl hr

def Expr.refs : Expr → List String
  | .ref n => [n]
  | .seq a b => a.refs ++ b.refs
  | .alt a b => a.refs ++ b.refs
  | .star e => e.refs
  | .plus e => e.refs
  | .opt e => e.refs
  | .not e => e.refs
  | _ => []

def Ranked (g : Grammar) (rk : String → Nat) : Prop := ∀ r ∈ g, ∀ n ∈ r.body.refs, rk n < rk r.name

-- in the three predicates: `N` bounds the characters left; the skip answers from budget `Fs` on, the expression or rule from `F`
def SkipOK (g : Grammar) (N Fs : Nat) : Prop := ∀ s : St, s.rest.length ≤ N → ∀ f, Fs ≤ f → skip g f s ≠ .outOfFuel

def ExprTot (g : Grammar) (N Fs F : Nat) (e : Expr) : Prop :=
  ∀ (atomic : Bool), (atomic = false → SkipOK g N Fs) → ∀ s : St, s.rest.length ≤ N → ∀ f, F ≤ f → eval g f atomic e s ≠ .outOfFuel

def RuleTot (g : Grammar) (N Fs F : Nat) (n : String) : Prop :=
  ∀ (atomic : Bool), (atomic = false → SkipOK g N Fs) → ∀ s : St, s.rest.length ≤ N → ∀ f, F ≤ f → evalRule g f atomic n s ≠ .outOfFuel

theorem ExprTot.mono {g N Fs F F' e} (h : ExprTot g N Fs F e) (hF : F ≤ F') : ExprTot g N Fs F' e :=
  fun atomic hs s hl f hf => h atomic hs s hl f (by omega)

theorem RuleTot.mono {g N Fs F F' n} (h : RuleTot g N Fs F n) (hF : F ≤ F') : RuleTot g N Fs F' n :=
  fun atomic hs s hl f hf => h atomic hs s hl f (by omega)

/-- it is enough to look at the budgets `f + 1`, where the equations of `Fx.Lemmas.PegEval` apply -/
theorem ExprTot.intro {g N Fs F e} (h : ∀ (atomic : Bool), (atomic = false → SkipOK g N Fs) → ∀ s : St, s.rest.length ≤ N →
    ∀ f, F ≤ f → eval g (f + 1) atomic e s ≠ .outOfFuel) : ExprTot g N Fs (F + 1) e := by
  intro atomic hs s hl f hf
  obtain ⟨f, rfl⟩ : ∃ f', f = f' + 1 := ⟨f - 1, by omega⟩
  exact h atomic hs s hl f (by omega)

theorem RuleTot.intro {g N Fs F n} (h : ∀ (atomic : Bool), (atomic = false → SkipOK g N Fs) → ∀ s : St, s.rest.length ≤ N →
    ∀ f, F ≤ f → evalRule g (f + 1) atomic n s ≠ .outOfFuel) : RuleTot g N Fs (F + 1) n := by
  intro atomic hs s hl f hf
  obtain ⟨f, rfl⟩ : ∃ f', f = f' + 1 := ⟨f - 1, by omega⟩
  exact h atomic hs s hl f (by omega)

/-- budgets are written `F + 1`, the shape `ExprTot.intro` / `RuleTot.intro` produce: here `0 + 1` -/
theorem RuleTot.of_not_found {g N Fs n} (h : g.find n = none) : RuleTot g N Fs (0 + 1) n := by
  refine .intro fun _ _ _ _ _ _ => ?_
  rw [evalRule_succ, h]
  exact fail_ans

theorem skipIf_ans {g : Grammar} {N Fs : Nat} {atomic : Bool} (hs : atomic = false → SkipOK g N Fs) {s : St} (hl : s.rest.length ≤ N)
    {f : Nat} (hf : Fs ≤ f) : skipIf g f atomic s ≠ .outOfFuel := by
  cases atomic with
  | false => exact hs rfl s hl f hf
  | true => exact ok_ans

theorem repeatMore_tot {g : Grammar} {N Fs Fe : Nat} {e : Expr} (he : ExprTot g N Fs Fe e) {atomic : Bool}
    (hs : atomic = false → SkipOK g N Fs) :
    ∀ (k : Nat) (s : St) (acc : List Pair), s.rest.length < k → k ≤ N + 1 → ∀ f, Fe + Fs + k ≤ f →
      repeatMore g f atomic e s acc ≠ .outOfFuel := by
  intro k
  induction k with
  | zero =>
    intro s acc hk
    omega
  | succ k ih =>
    intro s acc hk hN f hf
    obtain ⟨f, rfl⟩ : ∃ f', f = f' + 1 := ⟨f - 1, by omega⟩
    rw [repeatMore_succ]
    refine PR.on_ans (skipIf_ans hs (by omega) (by omega)) (fun s' _ h1 => ?_) ok_ans
    have a1 := (skipIf_adv h1).rest_le
    refine PR.on_ans (he atomic hs s' (by omega) f (by omega)) (fun s2 t2 h2 => ?_) ok_ans
    split
    · exact ok_ans
    · rename_i hne
      have := ((skipIf_adv h1).trans (eval_adv h2)).lt_of_ne hne
      exact ih s2 _ (by omega) (by omega) f (by omega)

theorem ExprTot.seq {g N Fs Fa Fb a b} (ha : ExprTot g N Fs Fa a) (hb : ExprTot g N Fs Fb b) :
    ExprTot g N Fs (Fa + Fb + Fs + 1) (.seq a b) := by
  refine .intro fun atomic hs s hl f hf => ?_
  rw [eval_seq]
  refine PR.on_ans (ha atomic hs s hl f (by omega)) (fun s1 t1 h1 => ?_) fail_ans
  have a1 := (eval_adv h1).rest_le
  refine PR.on_ans (skipIf_ans hs (by omega) (by omega)) (fun s1' _ h2 => ?_) fail_ans
  have a2 := (skipIf_adv h2).rest_le
  exact PR.on_ans (hb atomic hs s1' (by omega) f (by omega)) (fun _ _ _ => ok_ans) fail_ans

theorem ExprTot.star {g N Fs Fe e} (he : ExprTot g N Fs Fe e) : ExprTot g N Fs (Fe + Fs + (N + 1) + 1) (.star e) := by
  refine .intro fun atomic hs s hl f hf => ?_
  rw [eval_star]
  refine PR.on_ans (he atomic hs s hl f (by omega)) (fun s1 t1 h1 => ?_) ok_ans
  have a1 := (eval_adv h1).rest_le
  exact repeatMore_tot he hs (N + 1) s1 t1 (by omega) (Nat.le_refl _) f hf

section level
variable {g : Grammar} {rk : String → Nat} {N Fs G r : Nat}
variable (Hd : ∀ n, rk n < r → RuleTot g N Fs G n)
include Hd

theorem expr_tot : ∀ (e : Expr), (∀ n ∈ e.refs, rk n < r) → ∃ F, ExprTot g N Fs F e := by
  intro e
  induction e with
  | str t =>
    refine fun _ => ⟨0 + 1, .intro fun _ _ s _ _ _ => ?_⟩
    rw [eval_str]
    exact ofOpt_ans
  | any =>
    refine fun _ => ⟨0 + 1, .intro fun _ _ s _ _ _ => ?_⟩
    rw [eval_any]
    cases s.rest with
    | nil => exact fail_ans
    | cons d ds => exact ok_ans
  | digit =>
    refine fun _ => ⟨0 + 1, .intro fun _ _ s _ _ _ => ?_⟩
    rw [eval_digit]
    cases s.rest with
    | nil => exact fail_ans
    | cons d ds => exact ite_ans ok_ans fail_ans
  | alnum =>
    refine fun _ => ⟨0 + 1, .intro fun _ _ s _ _ _ => ?_⟩
    rw [eval_alnum]
    cases s.rest with
    | nil => exact fail_ans
    | cons d ds => exact ite_ans ok_ans fail_ans
  | soi =>
    refine fun _ => ⟨0 + 1, .intro fun _ _ s _ _ _ => ?_⟩
    rw [eval_soi]
    exact ite_ans ok_ans fail_ans
  | eoi =>
    refine fun _ => ⟨0 + 1, .intro fun _ _ s _ _ _ => ?_⟩
    rw [eval_eoi]
    exact ite_ans (ite_ans ok_ans ok_ans) fail_ans
  | newline =>
    refine fun _ => ⟨0 + 1, .intro fun _ _ s _ _ _ => ?_⟩
    rw [eval_newline]
    cases matchStr ['\n'] s with
    | some s' => exact ok_ans
    | none =>
      cases matchStr ['\r', '\n'] s with
      | some s' => exact ok_ans
      | none => exact ofOpt_ans
  | ref n =>
    refine fun hr => ⟨G + 1, .intro fun atomic hs s hl f hf => ?_⟩
    rw [eval_ref]
    exact Hd n (hr n List.mem_cons_self) atomic hs s hl f hf
  | seq a b iha ihb =>
    intro hr
    obtain ⟨Fa, ha⟩ := iha fun n hn => hr n (List.mem_append_left _ hn)
    obtain ⟨Fb, hb⟩ := ihb fun n hn => hr n (List.mem_append_right _ hn)
    exact ⟨_, ha.seq hb⟩
  | alt a b iha ihb =>
    intro hr
    obtain ⟨Fa, ha⟩ := iha fun n hn => hr n (List.mem_append_left _ hn)
    obtain ⟨Fb, hb⟩ := ihb fun n hn => hr n (List.mem_append_right _ hn)
    refine ⟨Fa + Fb + 1, .intro fun atomic hs s hl f hf => ?_⟩
    rw [eval_alt]
    exact PR.on_ans (ha atomic hs s hl f (by omega)) (fun _ _ _ => ok_ans) (hb atomic hs s hl f (by omega))
  | opt e ih =>
    intro hr
    obtain ⟨Fe, he⟩ := ih hr
    refine ⟨Fe + 1, .intro fun atomic hs s hl f hf => ?_⟩
    rw [eval_opt]
    exact PR.on_ans (he atomic hs s hl f hf) (fun _ _ _ => ok_ans) ok_ans
  | not e ih =>
    intro hr
    obtain ⟨Fe, he⟩ := ih hr
    refine ⟨Fe + 1, .intro fun atomic hs s hl f hf => ?_⟩
    rw [eval_not]
    exact PR.on_ans (he atomic hs s hl f hf) (fun _ _ _ => fail_ans) ok_ans
  | star e ih =>
    intro hr
    obtain ⟨Fe, he⟩ := ih hr
    exact ⟨_, he.star⟩
  | plus e ih =>
    intro hr
    obtain ⟨Fe, he⟩ := ih hr
    exact ⟨_, .intro fun atomic hs s hl f hf => by
      rw [eval_plus]
      exact he.seq he.star atomic hs s hl f hf⟩

theorem rule_tot (n : String) (hn : ∀ rl, g.find n = some rl → ∀ m ∈ rl.body.refs, rk m < r) : ∃ F, RuleTot g N Fs F n := by
  cases hfd : g.find n with
  | none => exact ⟨0 + 1, .of_not_found hfd⟩
  | some rl =>
    obtain ⟨F, hF⟩ := expr_tot Hd rl.body (hn rl hfd)
    refine ⟨F + 1, .intro fun atomic hs s hl f hf => ?_⟩
    have hT := hF true nofun s hl f hf
    have hA := hF atomic hs s hl f hf
    rw [evalRule_succ, hfd]
    simp only
    split
    · exact PR.on_ans hT (fun _ _ _ => ok_ans) fail_ans
    · cases rl.ty with
      | silent => exact hA
      | normal => exact PR.on_ans hA (fun _ _ _ => ite_ans ok_ans ok_ans) fail_ans
      | atomic => exact PR.on_ans hT (fun _ _ _ => ite_ans ok_ans ok_ans) fail_ans

end level

theorem exists_uniform {α} (P : α → Nat → Prop) (hmono : ∀ x F F', P x F → F ≤ F' → P x F') :
    ∀ (l : List α), (∀ x ∈ l, ∃ F, P x F) → ∃ F, ∀ x ∈ l, P x F
  | [], _ => ⟨0, fun _ h => nomatch h⟩
  | x :: xs, h => by
    obtain ⟨F1, h1⟩ := exists_uniform P hmono xs fun y hy => h y (List.mem_cons_of_mem _ hy)
    obtain ⟨F0, h0⟩ := h x List.mem_cons_self
    refine ⟨max F0 F1, fun y hy => ?_⟩
    rcases List.mem_cons.mp hy with rfl | hy'
    · exact hmono _ _ _ h0 (Nat.le_max_left _ _)
    · exact hmono _ _ _ (h1 y hy') (Nat.le_max_right _ _)

theorem le_foldr_max {α} (rk : α → Nat) {x : α} : ∀ {l : List α}, x ∈ l → rk x ≤ (l.map rk).foldr max 0
  | y :: ys, h => by
    simp only [List.map_cons, List.foldr_cons]
    rcases List.mem_cons.mp h with rfl | h'
    · exact Nat.le_max_left _ _
    · exact Nat.le_trans (le_foldr_max rk h') (Nat.le_max_right _ _)

/-- rank induction where the step needs one budget for all members of lower rank (`P x F`: "`x` answers from budget `F` on") -/
theorem ranked_uniform {α} (l : List α) (rk : α → Nat) (P : α → Nat → Prop) (hmono : ∀ x F F', P x F → F ≤ F' → P x F')
    (step : ∀ F, ∀ x ∈ l, (∀ y ∈ l, rk y < rk x → P y F) → ∃ F', P x F') : ∃ F, ∀ x ∈ l, P x F := by
  have level : ∀ r, ∃ F, ∀ x ∈ l, rk x < r → P x F := by
    intro r
    induction r with
    | zero => exact ⟨0, fun _ _ h => absurd h (Nat.not_lt_zero _)⟩
    | succ r ih =>
      obtain ⟨Fr, hFr⟩ := ih
      refine exists_uniform (fun x F => rk x < r + 1 → P x F) (fun x F F' h hF hx => hmono x F F' (h hx) hF) l fun x hx => ?_
      by_cases hrk : rk x < r + 1
      · obtain ⟨F', hF'⟩ := step Fr x hx fun y hy hyx => hFr y hy (by omega)
        exact ⟨F', fun _ => hF'⟩
      · exact ⟨0, fun h => absurd h hrk⟩
  obtain ⟨F, hF⟩ := level ((l.map rk).foldr max 0 + 1)
  exact ⟨F, fun x hx => hF x hx (Nat.lt_succ_of_le (le_foldr_max rk hx))⟩

theorem all_rules_tot (g : Grammar) (rk : String → Nat) (hr : Ranked g rk) (N Fs : Nat) : ∃ F, ∀ n, RuleTot g N Fs F n := by
  -- from the rules to all names (a name that is no rule is rejected at once); `Q` restricts the names: "rank below the rule
  -- in hand" inside the rank induction, nothing for the result
  have of_rules : ∀ {F} {Q : String → Prop}, (∀ rl ∈ g, Q rl.name → RuleTot g N Fs F rl.name) →
      ∀ n, Q n → RuleTot g N Fs (max 1 F) n := by
    intro F Q h n hq
    cases hfd : g.find n with
    | none => exact (RuleTot.of_not_found hfd).mono (Nat.le_max_left _ _)
    | some rl =>
      obtain ⟨hmem, rfl⟩ := Grammar.find_some hfd
      exact (h rl hmem hq).mono (Nat.le_max_right _ _)
  obtain ⟨F, hF⟩ := ranked_uniform g (fun rl => rk rl.name) (fun rl F => RuleTot g N Fs F rl.name) (fun _ _ _ h => h.mono)
    fun F rl _ hlow => rule_tot (r := rk rl.name) (of_rules hlow) rl.name fun rl' hfd m hm => by
      obtain ⟨hmem, hname⟩ := Grammar.find_some hfd
      rw [← hname]
      exact hr rl' hmem m hm
  exact ⟨max 1 F, fun n => of_rules (Q := fun _ => True) (fun rl hrl _ => hF rl hrl) n trivial⟩

theorem skipWs_tot {g : Grammar} {N Fw : Nat}
    (hw : ∀ s : St, s.rest.length ≤ N → ∀ f, Fw ≤ f → evalRule g f true "WHITESPACE" s ≠ .outOfFuel) :
    ∀ (k : Nat) (s : St), s.rest.length < k → k ≤ N + 1 → ∀ f, Fw + k ≤ f → skipWs g f s ≠ .outOfFuel := by
  intro k
  induction k with
  | zero =>
    intro s hk
    omega
  | succ k ih =>
    intro s hk hN f hf
    obtain ⟨f, rfl⟩ : ∃ f', f = f' + 1 := ⟨f - 1, by omega⟩
    rw [skipWs_succ]
    refine PR.on_ans (hw s (by omega) f (by omega)) (fun s' _ h1 => ?_) ok_ans
    split
    · exact ok_ans
    · rename_i hne
      have := (evalRule_adv h1).lt_of_ne hne
      exact ih s' (by omega) (by omega) f (by omega)

theorem skip_tot {g : Grammar} {N Fw : Nat}
    (hw : ∀ s : St, s.rest.length ≤ N → ∀ f, Fw ≤ f → evalRule g f true "WHITESPACE" s ≠ .outOfFuel)
    (hc : ∀ s : St, s.rest.length ≤ N → ∀ f, Fw ≤ f → evalRule g f true "COMMENT" s ≠ .outOfFuel) :
    ∀ (k : Nat) (s : St), s.rest.length < k → k ≤ N + 1 → ∀ f, Fw + (N + 1) + k ≤ f → skip g f s ≠ .outOfFuel := by
  intro k
  induction k with
  | zero =>
    intro s hk
    omega
  | succ k ih =>
    intro s hk hN f hf
    obtain ⟨f, rfl⟩ : ∃ f', f = f' + 1 := ⟨f - 1, by omega⟩
    rw [skip_succ]
    refine PR.on_ans (skipWs_tot hw (N + 1) s (by omega) (Nat.le_refl _) f (by omega)) (fun s1 _ h1 => ?_) fail_ans
    have a1 := (skipWs_adv h1).rest_le
    refine PR.on_ans (hc s1 (by omega) f (by omega)) (fun s2 _ h2 => ?_) ok_ans
    split
    · exact ok_ans
    · rename_i hne
      have := (evalRule_adv h2).lt_of_ne hne
      exact ih s2 (by omega) (by omega) f (by omega)

theorem parse_terminates (g : Grammar) (rk : String → Nat) (hr : Ranked g rk) (N : Nat) :
    ∃ F, ∀ (start : String) (s : St), s.rest.length ≤ N → ∀ f, F ≤ f → evalRule g f false start s ≠ .outOfFuel := by
  -- Rules answer given that the skip does, and the skip is two rules: the circle breaks in atomic mode, which uses no skip.
  -- First call (`Fs` arbitrary, skip hypothesis `nofun`): `WHITESPACE`, `COMMENT` run atomically, hence the skip; second: all.
  obtain ⟨Fa, hFa⟩ := all_rules_tot g rk hr N 0
  have hskip : SkipOK g N (Fa + (N + 1) + (N + 1)) := fun s hl f hf =>
    skip_tot (fun s hl f hf => hFa "WHITESPACE" true nofun s hl f hf) (fun s hl f hf => hFa "COMMENT" true nofun s hl f hf)
      (N + 1) s (by omega) (Nat.le_refl _) f hf
  obtain ⟨F, hF⟩ := all_rules_tot g rk hr N (Fa + (N + 1) + (N + 1))
  exact ⟨F, fun start s hl f hf => hF start false (fun _ => hskip) s hl f hf⟩

/-- `dag` runs it at `g.length + 1`: without recursion no chain of references is longer than the grammar -/
def rankOf (g : Grammar) : Nat → String → Nat
  | 0, _ => 0
  | fuel + 1, n =>
    match g.find n with
    | none => 0
    | some r => (r.body.refs.map (rankOf g fuel)).foldr max 0 + 1

def dag (g : Grammar) : Bool :=
  g.all fun r => r.body.refs.all fun n => decide (rankOf g (g.length + 1) n < rankOf g (g.length + 1) r.name)

theorem dag_ranked (g : Grammar) (h : dag g = true) : Ranked g (rankOf g (g.length + 1)) := by
  intro r hr n hn
  simp only [dag, List.all_eq_true, decide_eq_true_eq] at h
  exact h r hr n hn

end Fx.Peg
