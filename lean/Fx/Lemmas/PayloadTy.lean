/-
  Fx.Lemmas.PayloadTy — `print_types` writes a declarator's type as its element's type under an array or vector wrapper
  (`opaque` and `string` are their own containers): what ignores the wrappers sees the element type alone.
-/
import Fx.OutputOk
namespace Fx

/-- the type of one element as `print_types` writes it -/
def elemTy (a : Ast) : BasicType → TyExpr
  | .opaque => .t
  | .string => .string
  | .ident i => if a.isGeneric i then .pathT (BasicType.ident i).asSafeString else .path (BasicType.ident i).asSafeString
  | t => .path t.asSafeString

theorem payloadTy_none (a : Ast) (t : BasicType) : payloadTy a (.none t) = elemTy a t := by
  cases t with
  | ident c => simp only [payloadTy, ArrayType.unwrapArray, elemTy]
  | _ => rfl

theorem payloadTy_fixed (a : Ast) {t : BasicType} (sz : ArraySize) (ho : t ≠ .opaque) (hs : t ≠ .string) :
    payloadTy a (.fixed t sz) = .arr (elemTy a t) sz := by
  cases t with
  | «opaque» => exact absurd rfl ho
  | string => exact absurd rfl hs
  | ident c =>
    simp only [payloadTy, ArrayType.unwrapArray, elemTy]
    split <;> rfl
  | _ => rfl

theorem payloadTy_variable_ident (a : Ast) (c : String) (mx : Option ArraySize) :
    payloadTy a (.variable (.ident c) mx) = .vec (elemTy a (.ident c)) := by
  simp only [payloadTy, ArrayType.unwrapArray, elemTy]
  split <;> rfl

theorem payloadTy_elem {β} (f : TyExpr → β) (harr : ∀ e s, f (.arr e s) = f e) (hvec : ∀ e, f (.vec e) = f e) (a : Ast)
    (at_ : ArrayType) : f (payloadTy a at_) = f (elemTy a at_.unwrapArray) := by
  rcases at_ with t | ⟨t, sz⟩ | ⟨t, mx⟩ <;> cases t <;>
    first
    | rfl
    | exact harr _ _
    | exact hvec _
    | (simp only [payloadTy, ArrayType.unwrapArray, elemTy]
       split <;> first | rfl | exact harr _ _ | exact hvec _)

theorem elemTy_usesT (a : Ast) (b : BasicType) : (elemTy a b).usesT = (b.isOpaque || a.targetGeneric b) := by
  cases b with
  | ident i =>
    simp only [elemTy, BasicType.isOpaque, Ast.targetGeneric, Bool.false_or]
    split <;> simp [TyExpr.usesT, *]
  | _ => rfl

theorem payloadTy_usesT (a : Ast) (t : ArrayType) :
    (payloadTy a t).usesT = (t.unwrapArray.isOpaque || a.targetGeneric t.unwrapArray) :=
  (payloadTy_elem TyExpr.usesT (fun _ _ => rfl) (fun _ => rfl) a t).trans (elemTy_usesT a _)

theorem armTy_usesT (a : Ast) (t : ArrayType) :
    (armTy a t).usesT = (t.unwrapArray.isOpaque || a.targetGeneric t.unwrapArray) := by
  unfold armTy
  split
  · rename_i h
    rw [h]
    rfl
  · rename_i h
    rw [h]
    rfl
  · rename_i i h
    split
    · rename_i hg
      rw [h]
      exact hg.symm
    · exact payloadTy_usesT a t
  · exact payloadTy_usesT a t

end Fx
