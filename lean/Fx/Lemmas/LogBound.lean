/-
  Fx.Lemmas.LogBound — every allocation request of a decode call is bounded by the bytes present.
-/
import Fx.Lemmas.Advance
namespace Fx

/-- how much an allocation event reserves, in units backed by input bytes: reserved elements, copied bytes, one
    optional link (whose marker alone occupied four bytes) -/
def Ev.weight : Ev → Nat
  | .vec n => n
  | .str n => n
  | .box => 4

def LogOk (n : Nat) (l l' : List Ev) : Prop := ∃ new, l' = l ++ new ∧ ∀ e ∈ new, e.weight ≤ n

theorem LogOk.refl {n : Nat} {l : List Ev} : LogOk n l l := ⟨[], by simp, by simp⟩

theorem LogOk.trans {n l l1 l2} (h1 : LogOk n l l1) (h2 : LogOk n l1 l2) : LogOk n l l2 := by
  obtain ⟨a, ha, wa⟩ := h1
  obtain ⟨b, hb, wb⟩ := h2
  refine ⟨a ++ b, by rw [hb, ha, List.append_assoc], ?_⟩
  intro e he
  rcases List.mem_append.mp he with h | h
  · exact wa e h
  · exact wb e h

theorem LogOk.mono {n m l l'} (h : LogOk n l l') (hnm : n ≤ m) : LogOk m l l' := by
  obtain ⟨a, ha, wa⟩ := h
  exact ⟨a, ha, fun e he => Nat.le_trans (wa e he) hnm⟩

theorem LogOk.snoc {n l} {e : Ev} (h : e.weight ≤ n) : LogOk n l (l ++ [e]) :=
  ⟨[e], rfl, by simp [h]⟩

def Res.log? {α} : Res α → Option (List Ev)
  | .ok _ c => some c.log
  | .err _ l => some l
  | _ => none

def LogB {α} (c : Cur) (r : Res α) : Prop := ∀ l', r.log? = some l' → LogOk c.remaining c.log l'

/-- with `Advs`: the second decoder of a sequence is bounded by the bytes it was given, no more than the first had -/
def Logs {α} (f : Cur → Res α) : Prop := Advs f ∧ ∀ c, LogB c (f c)

theorem Logs.bind {α β} {f : Cur → Res α} {g : α → Cur → Res β} (hf : Logs f) (hg : ∀ v, Logs (g v)) :
    Logs fun c => (f c).bind g := by
  refine ⟨Advs.bind hf.1 fun v => (hg v).1, fun c l' hl => ?_⟩
  have h1 := hf.2 c
  simp only at hl
  cases hr : f c with
  | ok v c1 =>
    rw [hr] at h1 hl
    exact (h1 _ rfl).trans (((hg v).2 c1 l' hl).mono (hf.1 c v c1 hr).remaining_le)
  | err e l => rw [hr] at h1 hl; exact h1 l' hl
  | _ => rw [hr] at hl; cases hl

theorem Logs.quiet {α} {f : Cur → Res α} (ha : Advs f) (h : ∀ c l', (f c).log? = some l' → l' = c.log) : Logs f :=
  ⟨ha, fun c l' hl => h c l' hl ▸ LogOk.refl⟩

theorem Logs.pure {α} (v : α) : Logs fun c => .ok v c := Logs.quiet (Advs.pure v) fun _ _ h => by cases h; rfl
theorem Logs.err {α} (e : Err) : Logs fun c => (.err e c.log : Res α) := Logs.quiet (Advs.err e) fun _ _ h => by cases h; rfl
theorem Logs.noLog {α} {r : Res α} (h : r.log? = none) : Logs fun _ => r :=
  ⟨Advs.fail (by cases r <;> simp_all [Res.log?]), fun c l' hl => by rw [h] at hl; cases hl⟩

theorem readRaw_logs {α} (k : Nat) (g : Nat → List Byte → α) : Logs (readRaw k g) :=
  Logs.quiet (readRaw_adv k g) fun c l' h => by
    unfold readRaw at h
    split at h <;> cases h <;> rfl

theorem Logs.closed : Closed @Logs := ⟨Logs.pure, Logs.err, Logs.bind, readRaw_logs⟩

theorem readers_logs : Readers @Logs := readers_closed Logs.closed

/-- the copy `read_string` makes is of bytes that were present -/
theorem readString_logs (m : Option Nat) : Logs (readString m) := by
  refine ⟨readString_adv m, fun c l' hl => ?_⟩
  unfold readString at hl
  cases hr : readVariableBytes m c with
  | ok b c1 =>
    obtain ⟨n, rfl, hn, _, _, rfl⟩ := readVariableBytes_ok hr
    have hlen : (payloadOf (.bytes (c.off + 4) ((c.data.drop 4).take n))).length ≤ c.remaining := by
      simp [payloadOf, Cur.remaining]
      omega
    simp only [hr, Res.bind_ok] at hl
    split at hl <;> cases hl <;> exact LogOk.snoc hlen
  | err e l => rw [hr] at hl; exact (readers_logs.vbytes m).2 c l' (hr ▸ hl)
  | _ => rw [hr] at hl; cases hl

/-- the `Box` is backed by the four bytes of the marker -/
theorem evalOpt_logs {eI : Cur → Res Val} (h : Logs eI) : Logs (evalOpt eI) := by
  refine ⟨evalOpt_adv h.1, fun c l' hl => ?_⟩
  unfold evalOpt at hl
  cases hm : readU32 c with
  | ok m c1 =>
    obtain ⟨rfl, l4, _⟩ := readU32_ok hm
    simp only [hm, Res.bind_ok] at hl
    split at hl
    · cases hl; exact LogOk.refl
    · split at hl
      · have hi := h.2 (c.advance 4)
        cases hr : eI (c.advance 4) with
        | ok v c2 =>
          rw [hr] at hi hl
          cases hl
          exact ((hi _ rfl).mono (by simp)).trans (LogOk.snoc l4)
        | err e l => rw [hr] at hi hl; exact (hi l' hl).mono (by simp)
        | _ => rw [hr] at hl; cases hl
      · cases hl; exact LogOk.refl
  | err e l => rw [hm] at hl; exact readers_logs.u32.2 c l' (hm ▸ hl)
  | _ => rw [hm] at hl; cases hl

theorem arrLoop_logB (dec : Cur → Res Val) (ws : Val → Nat) (hd : ∀ c, LogB c (dec c)) (k : Nat) :
    ∀ (c : Cur) (sum : Nat) (acc : Vals), LogB c (arrLoop dec ws k c sum acc) := by
  induction k with
  | zero => intro c sum acc l' hl; cases hl; exact LogOk.refl
  | succ k ih =>
    intro c sum acc l' hl
    rw [arrLoop_succ] at hl
    have hdc := hd c
    cases hdec : dec c with
    | ok t ct =>
      rw [hdec] at hdc hl
      rw [Res.bind_ok] at hl
      split at hl
      · cases hl
        exact hdc _ rfl
      · exact (hdc _ rfl).trans ((ih _ _ _ l' hl).mono (by simp))
    | err e l =>
      rw [hdec] at hdc hl
      exact hdc l' hl
    | _ =>
      rw [hdec] at hl
      cases hl

theorem arrLoop_logs (dec : Cur → Res Val) (ws : Val → Nat) (hd : ∀ c, LogB c (dec c)) (k sum : Nat) (acc : Vals) :
    Logs fun c => arrLoop dec ws k c sum acc :=
  ⟨arrLoop_adv dec ws k sum acc, fun c => arrLoop_logB dec ws hd k c sum acc⟩

theorem Logs.vec {α} {f : Cur → Res α} (n : Nat) (hf : Logs f) : Logs fun c => f (c.addLog (.vec (min n c.remaining))) :=
  ⟨fun c => hf.1 (c.addLog _), fun c l' h => (LogOk.snoc (Nat.min_le_right _ _)).trans (hf.2 (c.addLog _) l' h)⟩

theorem readVariableArray_logs {dec : Cur → Res Val} {ws : Val → Nat} (m : Option Nat) (hd : ∀ c, LogB c (dec c)) :
    Logs (readVariableArray dec ws m) :=
  readVariableArray_closed Logs.closed Logs.vec m fun n => arrLoop_logs dec ws hd n 0 .nil

theorem eval_logs (a : Ast) (p : Plans) (fuel : Nat) : Evals.all @Logs a p fuel :=
  eval_closed { Logs.closed with
      oof := Logs.noLog rfl, panic := fun _ => Logs.noLog rfl, str := readString_logs, opt := evalOpt_logs, vec := Logs.vec } a p
    (loop := fun _ _ h n => arrLoop_logs _ _ h.2 n 0 .nil) fuel

end Fx
