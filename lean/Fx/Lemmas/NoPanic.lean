/-
  Fx.Lemmas.NoPanic — no reader reaches a panic or abort outcome, and no decoder of well-formed plans (`Plans.Ok`) does.
-/
import Fx.Lemmas.EvalBasics
namespace Fx

def NoBad {α} (f : Cur → Res α) : Prop := ∀ c, (f c).isBad = false

theorem Res.bind_isBad {α β} {r : Res α} {f : α → Cur → Res β}
    (h1 : r.isBad = false) (h2 : ∀ a c, (f a c).isBad = false) : (r.bind f).isBad = false := by
  cases r with
  | ok a c => exact h2 a c
  | panic s => cases h1
  | abort => cases h1
  | _ => rfl

theorem NoBad.bind {α β} {f : Cur → Res α} {g : α → Cur → Res β} (hf : NoBad f) (hg : ∀ v, NoBad (g v)) :
    NoBad fun c => (f c).bind g := fun c => Res.bind_isBad (hf c) fun v c1 => hg v c1

theorem NoBad.pure {α} (v : α) : NoBad fun c => .ok v c := fun _ => rfl
theorem NoBad.err {α} (e : Err) : NoBad fun c => (.err e c.log : Res α) := fun _ => rfl
theorem NoBad.logged {α} (v : α) (e : Ev) : NoBad fun c => .ok v (c.addLog e) := fun _ => rfl

theorem NoBad.closed : Closed @NoBad := ⟨NoBad.pure, NoBad.err, NoBad.bind, readRaw_noBad⟩

theorem readers_noBad : Readers @NoBad := readers_closed NoBad.closed

theorem readString_noBad (m : Option Nat) : NoBad (readString m) :=
  NoBad.bind (readers_noBad.vbytes m) fun _ => closed_ite (NoBad.logged _ _) (fun _ => rfl)

theorem evalOpt_noBad {eI : Cur → Res Val} (h : NoBad eI) : NoBad (evalOpt eI) :=
  evalOpt_closed NoBad.closed (NoBad.logged · .box) h

theorem NoBad.vec {α} {f : Cur → Res α} (n : Nat) (hf : NoBad f) : NoBad fun c => f (c.addLog (.vec (min n c.remaining))) :=
  fun _ => hf _

theorem arrLoop_noBad (dec : Cur → Res Val) (ws : Val → Nat) (hd : NoBad dec) (k : Nat) :
    ∀ (sum : Nat) (acc : Vals), NoBad fun c => arrLoop dec ws k c sum acc := by
  induction k with
  | zero => exact fun _ _ _ => rfl
  | succ k ih =>
    intro sum acc c
    show (arrLoop dec ws (k + 1) c sum acc).isBad = false
    rw [arrLoop_succ]
    refine Res.bind_isBad (hd c) fun t ct => ?_
    split
    · rfl
    · exact ih _ _ _

theorem readVariableArray_noBad {dec : Cur → Res Val} {ws : Val → Nat} (m : Option Nat) (hd : NoBad dec) :
    NoBad (readVariableArray dec ws m) :=
  readVariableArray_closed NoBad.closed NoBad.vec m fun n => arrLoop_noBad dec ws hd n 0 .nil

def BasicDec.resolved (p : Plans) : BasicDec → Bool
  | .tryFrom n => (p.findImpl n).isSome
  | _ => true

def FieldDec.resolved (p : Plans) : FieldDec → Bool
  | .one b => b.resolved p
  | .fixedArr _ b => b.resolved p
  | .varArr ty _ _ => (p.findImpl ty).isSome
  | _ => true

def StructFieldDec.resolved (p : Plans) : StructFieldDec → Bool
  | .plain _ d => d.resolved p
  | .optional _ ty => (p.findImpl ty).isSome

def Arm.resolved (p : Plans) (a : Arm) : Bool :=
  match a.payload with
  | some d => d.resolved p
  | none => true

def hasWild (arms : List Arm) : Bool := arms.any fun a => decide (a.pat = .wild)

def ImplBody.okFor (p : Plans) : ImplBody → Bool
  | .struct fs => fs.all (·.resolved p)
  | .union u =>
    u.disc.resolved p && u.arms.all (·.resolved p) &&
      (match u.tail with
       | .defaultData d => d.resolved p
       | .errUnknown => true
       | .none => hasWild u.arms)
  | .enum _ => true
  | .typedef d => d.resolved p

/-- every name a decoder calls has a decoder, and a union without a tail arm has a `_` arm -/
def Plans.Ok (p : Plans) : Bool := p.impls.all fun i => i.body.okFor p

theorem selectArm_of_wild (a : Ast) (s : Val) (arms : List Arm) (h : hasWild arms = true) :
    (selectArm a s arms).isSome = true := by
  induction arms with
  | nil => simp [hasWild] at h
  | cons arm rest ih =>
    simp only [selectArm]
    split
    · rfl
    · rename_i hn
      simp only [hasWild, List.any_cons, Bool.or_eq_true] at h
      rcases h with h | h
      · exfalso
        apply hn
        have : arm.pat = .wild := by simpa using h
        simp [patMatches, this]
      · exact ih h

theorem Plans.findImpl_ok {p : Plans} (hp : p.Ok = true) {n : String} {i : Impl} (h : p.findImpl n = some i) :
    i.body.okFor p = true :=
  List.all_eq_true.mp hp i (Plans.findImpl_some h).1

theorem eval_noBad (a : Ast) (p : Plans) (hp : p.Ok = true) (fuel : Nat) :
    Evals (fun n => ∀ c, (p.findImpl n).isSome = true → (evalImpl a p fuel n c).isBad = false)
      (fun b => ∀ c, b.resolved p = true → (evalBasic a p fuel b c).isBad = false)
      (fun fd => ∀ c, fd.resolved p = true → (evalField a p fuel fd c).isBad = false)
      (fun k b => ∀ c, b.resolved p = true → (evalRepeat a p fuel k b c).isBad = false)
      (fun fs => ∀ c, fs.all (·.resolved p) = true → (evalFields a p fuel fs c).isBad = false) := by
  obtain ⟨_, _, i32, _, _, bytes, prim, vbytes⟩ := readers_noBad
  induction fuel with
  | zero => exact ⟨fun _ _ _ => rfl, fun _ _ _ => rfl, fun _ _ _ => rfl, fun _ _ _ _ => rfl, fun _ _ _ => rfl⟩
  | succ f ih =>
    obtain ⟨ihI, ihB, ihF, ihR, ihFs⟩ := ih
    refine ⟨?_, ?_, ?_, ?_, ?_⟩
    · intro n c hn
      cases hfi : p.findImpl n with
      | none =>
        rw [hfi] at hn
        cases hn
      | some i =>
        have hok := Plans.findImpl_ok hp hfi
        cases hb : i.body with
        | struct fs =>
          rw [hb] at hok
          rw [evalImpl_struct hfi hb]
          exact Res.bind_isBad (ihFs fs c hok) (fun _ _ => rfl)
        | union u =>
          rw [hb] at hok
          simp only [ImplBody.okFor, Bool.and_eq_true] at hok
          obtain ⟨⟨hdisc, harms⟩, htail⟩ := hok
          rw [evalImpl_union hfi hb]
          refine Res.bind_isBad (ihB u.disc c hdisc) fun d c1 => ?_
          unfold evalArms
          cases hsel : selectArm a d u.arms with
          | some arm =>
            have hres := List.all_eq_true.mp harms arm (selectArm_mem hsel)
            dsimp only
            cases hpl : arm.payload with
            | some fd =>
              simp only [Arm.resolved, hpl] at hres
              exact Res.bind_isBad (ihF fd c1 hres) (fun _ _ => rfl)
            | none => rfl
          | none =>
            dsimp only
            cases htl : u.tail with
            | defaultData fd =>
              rw [htl] at htail
              exact Res.bind_isBad (ihF fd c1 htail) (fun _ _ => rfl)
            | errUnknown => rfl
            | none =>
              -- a union without a tail arm has a `_` arm, so some arm was selected
              rw [htl] at htail
              have := selectArm_of_wild a d u.arms htail
              rw [hsel] at this
              cases this
        | enum arms =>
          rw [evalImpl_enum hfi hb]
          refine Res.bind_isBad (i32 c) fun x c1 => ?_
          split <;> rfl
        | typedef fd =>
          rw [hb] at hok
          rw [evalImpl_typedef hfi hb]
          exact Res.bind_isBad (ihF fd c hok) (fun _ _ => rfl)
    · intro b c hb
      cases b with
      | prim pr => exact prim pr c
      | string => exact readString_noBad none c
      | «opaque» => exact vbytes none c
      | tryFrom n => exact ihI n c hb
    · intro fd c hfd
      cases fd with
      | one b => exact ihB b c hfd
      | fixedBytes n => exact bytes n c
      | fixedArr n b => exact Res.bind_isBad (ihR n b c hfd) (fun _ _ => rfl)
      | varBytes m => exact vbytes m c
      | varString m => exact readString_noBad m c
      | varArr ty g m => exact readVariableArray_noBad m (fun c' => ihI ty c' hfd) c
    · intro k b c hb
      cases k with
      | zero => rfl
      | succ k => exact Res.bind_isBad (ihB b c hb) fun v c1 => Res.bind_isBad (ihR k b c1 hb) (fun _ _ => rfl)
    · intro fs c hfs
      cases fs with
      | nil => rfl
      | cons fld rest =>
        simp only [List.all_cons, Bool.and_eq_true] at hfs
        refine Res.bind_isBad ?_ fun v c' => Res.bind_isBad (ihFs rest c' hfs.2) (fun _ _ => rfl)
        cases fld with
        | plain nm fd => exact ihF fd c hfs.1
        | optional nm ty => exact evalOpt_noBad (fun c1 => ihI ty c1 hfs.1) c

end Fx
