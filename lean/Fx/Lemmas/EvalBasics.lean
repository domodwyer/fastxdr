/-
  Fx.Lemmas.EvalBasics — lookups in the plans, `evalOpt`, one step of each evaluator, and the closure principle: a property of
  decoders that holds of `readRaw` and is preserved by `bind` (`Closed`) holds of the readers built from these (`readers_closed`);
  given also `read_string`, the optional link and the element loop (`EvalClosed`), it holds of every emitted decoder (`eval_closed`).
-/
import Fx.Eval
import Fx.Lemmas.Runtime
namespace Fx

theorem Plans.findImpl_some {p : Plans} {n : String} {i : Impl} (h : p.findImpl n = some i) : i ∈ p.impls ∧ i.name = n :=
  ⟨List.mem_of_find?_eq_some h, by simpa using List.find?_some h⟩

theorem selectArm_mem {a : Ast} {s : Val} {arms : List Arm} {arm : Arm} (h : selectArm a s arms = some arm) :
    arm ∈ arms := by
  induction arms with
  | nil => simp [selectArm] at h
  | cons x rest ih =>
    simp only [selectArm] at h
    split at h
    · cases h
      exact List.mem_cons_self
    · exact List.mem_cons_of_mem _ (ih h)

/-- the decoder of an optional field (`Option<Box<ty>>`) over any decoder `eI` of `ty` -/
def evalOpt (eI : Cur → Res Val) (c : Cur) : Res Val :=
  (readU32 c).bind fun m c1 =>
    if m = 0 then .ok .none c1
    else if m = 1 then (eI c1).bind fun v c2 => .ok (.some v) (c2.addLog .box)
    else .err (.unknownOptionVariant m) c1.log

theorem evalOpt_ok {eI : Cur → Res Val} {c : Cur} {v : Val} {c' : Cur} (h : evalOpt eI c = .ok v c') :
    ∃ m c1, readU32 c = .ok m c1 ∧
      ((v = .none ∧ c' = c1) ∨ ∃ w c2, eI c1 = .ok w c2 ∧ v = .some w ∧ c' = c2.addLog .box) := by
  obtain ⟨m, c1, h1, h2⟩ := Res.bind_eq_ok h
  refine ⟨m, c1, h1, ?_⟩
  split at h2
  · cases h2
    exact .inl ⟨rfl, rfl⟩
  · split at h2
    · obtain ⟨w, c2, h3, h4⟩ := Res.bind_eq_ok h2
      cases h4
      exact .inr ⟨w, c2, h3, rfl, rfl⟩
    · cases h2

/- One step of `evalBasic`, `evalField`, `evalRepeat`, `evalFields` holds by `rfl`: proofs `exact` through the steps that call one
   reader or evaluator; the steps that sequence are stated for `rw`. -/
section
variable (a : Ast) (p : Plans) (f : Nat)

theorem evalBasic_tryFrom (n : String) (c : Cur) : evalBasic a p (f + 1) (.tryFrom n) c = evalImpl a p f n c := rfl

theorem evalField_fixedArr (k : Nat) (b : BasicDec) (c : Cur) :
    evalField a p (f + 1) (.fixedArr k b) c = (evalRepeat a p f k b c).bind fun vs c' => .ok (.arr vs) c' := rfl

theorem evalRepeat_succ (k : Nat) (b : BasicDec) (c : Cur) :
    evalRepeat a p (f + 1) (k + 1) b c =
      (evalBasic a p f b c).bind fun v c1 => (evalRepeat a p f k b c1).bind fun vs c2 => .ok (.cons v vs) c2 := rfl

theorem evalFields_cons (fld : StructFieldDec) (fs : List StructFieldDec) (c : Cur) :
    evalFields a p (f + 1) (fld :: fs) c =
      (match fld with
       | .plain _ fd => evalField a p f fd c
       | .optional _ ty => evalOpt (evalImpl a p f ty) c).bind fun v c' =>
        (evalFields a p f fs c').bind fun vs c'' => .ok (.cons v vs) c'' := by
  cases fld <;> rfl

end

/-- what a union decoder does once the discriminant value `dv` is read (the inner `match` of `evalImpl`) -/
def evalArms (a : Ast) (P : Plans) (fuel : Nat) (name : String) (ud : UnionDec) (dv : Val) (c1 : Cur) : Res Val :=
  match selectArm a dv ud.arms with
  | some arm =>
    (match arm.payload with
     | some fd => (evalField a P fuel fd c1).bind fun v c2 => .ok (.tuple name (nonDigitName arm.variant) v) c2
     | none => .ok (.unit name (nonDigitName arm.variant)) c1)
  | none =>
    (match ud.tail with
     | .defaultData fd => (evalField a P fuel fd c1).bind fun v c2 => .ok (.tuple name "default" v) c2
     | .errUnknown => .err (.unknownVariant (asI32 a dv)) c1.log
     | .none => .panic "non-exhaustive match")

theorem evalImpl_none {a : Ast} {p : Plans} {n : String} (hfi : p.findImpl n = none) (f : Nat) (c : Cur) :
    evalImpl a p (f + 1) n c = .panic "unresolved" := by
  simp only [evalImpl, hfi]

section step
variable {a : Ast} {p : Plans} {n : String} {i : Impl} (hfi : p.findImpl n = some i)
include hfi

theorem evalImpl_struct {fs : List StructFieldDec} (hb : i.body = .struct fs) (f : Nat) (c : Cur) :
    evalImpl a p (f + 1) n c =
      (evalFields a p f fs c).bind fun vs c' => .ok (.struct n (fs.map fieldNameOf) vs) c' := by
  simp only [evalImpl, hfi, hb]

theorem evalImpl_union {u : UnionDec} (hb : i.body = .union u) (f : Nat) (c : Cur) :
    evalImpl a p (f + 1) n c = (evalBasic a p f u.disc c).bind (evalArms a p f n u) := by
  simp only [evalImpl, hfi, hb]
  -- the continuation written out there is the body of `evalArms`
  rfl

theorem evalImpl_enum {arms : List (VariantValue × String)} (hb : i.body = .enum arms) (f : Nat) (c : Cur) :
    evalImpl a p (f + 1) n c =
      (readI32 c).bind fun x c1 =>
        (match selectEnum a (.i32 x) arms with
         | some m => .ok (.cenum n m) c1
         | none => .err (.unknownVariant x) c1.log) := by
  simp only [evalImpl, hfi, hb]
  rfl

theorem evalImpl_typedef {fd : FieldDec} (hb : i.body = .typedef fd) (f : Nat) (c : Cur) :
    evalImpl a p (f + 1) n c = (evalField a p f fd c).bind fun v c' => .ok (.newtype n v) c' := by
  simp only [evalImpl, hfi, hb]

end step

structure Evals (I : String → Prop) (B : BasicDec → Prop) (F : FieldDec → Prop) (R : Nat → BasicDec → Prop)
    (Fs : List StructFieldDec → Prop) : Prop where
  impl : ∀ n, I n
  basic : ∀ b, B b
  field : ∀ fd, F fd
  rep : ∀ k b, R k b
  fields : ∀ fs, Fs fs

abbrev Evals.all (Q : ∀ {α : Type}, (Cur → Res α) → Prop) (a : Ast) (p : Plans) (fuel : Nat) : Prop :=
  Evals (fun n => Q (evalImpl a p fuel n)) (fun b => Q (evalBasic a p fuel b)) (fun fd => Q (evalField a p fuel fd))
    (fun k b => Q (evalRepeat a p fuel k b)) (fun fs => Q (evalFields a p fuel fs))

structure Readers (P : ∀ {α : Type}, (Cur → Res α) → Prop) : Prop where
  u32 : P readU32
  u64 : P readU64
  i32 : P readI32
  i64 : P readI64
  bool : P readBool
  bytes : ∀ n, P (readBytes n)
  prim : ∀ pr, P (readPrim pr)
  vbytes : ∀ m, P (readVariableBytes m)

structure Closed (P : ∀ {α : Type}, (Cur → Res α) → Prop) : Prop where
  pure : ∀ {α : Type} (v : α), P fun c => .ok v c
  err : ∀ {α : Type} (e : Err), P fun c => (.err e c.log : Res α)
  bind : ∀ {α β : Type} {f : Cur → Res α} {g : α → Cur → Res β}, P f → (∀ v, P (g v)) → P fun c => (f c).bind g
  raw : ∀ {α : Type} (k : Nat) (g : Nat → List Byte → α), P (readRaw k g)

/-- `str`, `opt` are asked for: what they log is backed by bytes already consumed, which `bind` does not hand on.  The element loop
    is asked for at `eval_closed` (it may need the plans). -/
structure EvalClosed (P : ∀ {α : Type}, (Cur → Res α) → Prop) : Prop extends Closed P where
  oof : ∀ {α : Type}, P fun _ => (.outOfFuel : Res α)
  panic : ∀ {α : Type} (s : String), P fun _ => (.panic s : Res α)
  str : ∀ m, P (readString m)
  opt : ∀ {eI : Cur → Res Val}, P eI → P (evalOpt eI)
  vec : ∀ {α : Type} {f : Cur → Res α} (n : Nat), P f → P fun c => f (c.addLog (.vec (min n c.remaining)))

section closed
variable {P : ∀ {α : Type}, (Cur → Res α) → Prop}

theorem closed_ite {α : Type} {b : Prop} [Decidable b] {f g : Cur → Res α} (hf : P f) (hg : P g) :
    P fun c => if b then f c else g c := by
  by_cases hb : b
  · simpa only [hb, if_true] using hf
  · simpa only [hb, if_false] using hg

theorem readers_closed (h : Closed P) : Readers P := by
  have u32 : P readU32 := funext readU32_eq ▸ h.raw 4 _
  have u64 : P readU64 := funext readU64_eq ▸ h.raw 8 _
  have bytes (n) : P (readBytes n) := funext (readBytes_eq n) ▸ h.raw _ _
  have map : ∀ {α β : Type} {f : Cur → Res α} (g : α → β), P f → P fun c => (f c).map g :=
    fun g hf => h.bind hf fun v => h.pure (g v)
  have i32 : P readI32 := map _ u32
  have i64 : P readI64 := map _ u64
  have bool : P readBool :=
    h.bind i32 fun i => closed_ite (h.pure false) (closed_ite (h.pure true) (h.err .invalidBoolean))
  refine ⟨u32, u64, i32, i64, bool, bytes, fun pr => ?_, fun m => h.bind u32 fun n => closed_ite (h.err .invalidLength) (bytes n)⟩
  cases pr
  · exact map _ u32
  · exact map _ u64
  · exact map _ i32
  · exact map _ i64
  · exact map _ u32
  · exact map _ u64
  · exact map _ bool

theorem evalOpt_closed (h : Closed P) (box : ∀ v : Val, P fun c => .ok v (c.addLog .box)) {eI : Cur → Res Val}
    (he : P eI) : P (evalOpt eI) :=
  h.bind (readers_closed h).u32 fun m =>
    closed_ite (h.pure Val.none) (closed_ite (h.bind he fun v => box (.some v)) (h.err (.unknownOptionVariant m)))

theorem readVariableArray_closed (h : Closed P)
    (vec : ∀ {α : Type} {f : Cur → Res α} (n : Nat), P f → P fun c => f (c.addLog (.vec (min n c.remaining))))
    {dec : Cur → Res Val} {ws : Val → Nat} (m : Option Nat) (loop : ∀ n, P fun c => arrLoop dec ws n c 0 .nil) :
    P (readVariableArray dec ws m) :=
  h.bind (readers_closed h).u32 fun n =>
    closed_ite (h.err .invalidLength) <|
      h.bind (vec n (loop n)) fun os => funext (padSkip_eq (padLen os.2) (Val.vec os.1)) ▸ h.raw _ _

theorem eval_closed (h : EvalClosed P) (a : Ast) (p : Plans)
    (loop : ∀ f ty, P (evalImpl a p f ty) → ∀ n, P fun c => arrLoop (evalImpl a p f ty) (wsVal p) n c 0 .nil) (fuel : Nat) :
    Evals.all P a p fuel := by
  obtain ⟨pure, err, bind, raw⟩ := h.toClosed
  obtain ⟨_, oof, panic, str, opt, vec⟩ := h
  obtain ⟨_, _, i32, _, _, bytes, prim, vbytes⟩ := readers_closed (P := P) ⟨pure, err, bind, raw⟩
  induction fuel with
  | zero => exact ⟨fun _ => oof, fun _ => oof, fun _ => oof, fun _ _ => oof, fun _ => oof⟩
  | succ f ih =>
    obtain ⟨ihI, ihB, ihF, ihR, ihFs⟩ := ih
    refine ⟨fun n => ?_, fun b => ?_, fun fd => ?_, fun k b => ?_, fun fs => ?_⟩
    · show P fun c => evalImpl a p (f + 1) n c
      cases hfi : p.findImpl n with
      | none =>
        simp only [evalImpl_none hfi]
        exact panic _
      | some i =>
        cases hb : i.body with
        | struct fs =>
          simp only [evalImpl_struct hfi hb]
          exact bind (ihFs fs) fun vs => pure _
        | union u =>
          simp only [evalImpl_union hfi hb]
          refine bind (ihB u.disc) fun d => ?_
          unfold evalArms
          cases selectArm a d u.arms with
          | some arm =>
            dsimp only
            cases arm.payload with
            | some fd => exact bind (ihF fd) fun v => pure _
            | none => exact pure _
          | none =>
            dsimp only
            cases u.tail with
            | defaultData fd => exact bind (ihF fd) fun v => pure _
            | errUnknown => exact err _
            | none => exact panic _
        | enum arms =>
          simp only [evalImpl_enum hfi hb]
          refine bind i32 fun i => ?_
          cases selectEnum a (.i32 i) arms with
          | some m => exact pure _
          | none => exact err _
        | typedef fd =>
          simp only [evalImpl_typedef hfi hb]
          exact bind (ihF fd) fun v => pure _
    · show P fun c => evalBasic a p (f + 1) b c
      cases b with
      | prim pr => exact prim pr
      | string => exact str none
      | «opaque» => exact vbytes none
      | tryFrom n => exact ihI n
    · show P fun c => evalField a p (f + 1) fd c
      cases fd with
      | one b => exact ihB b
      | fixedBytes n => exact bytes n
      | fixedArr n b =>
        simp only [evalField_fixedArr]
        exact bind (ihR n b) fun vs => pure _
      | varBytes m => exact vbytes m
      | varString m => exact str m
      | varArr ty g m => exact readVariableArray_closed ⟨pure, err, bind, raw⟩ vec m (loop f ty (ihI ty))
    · show P fun c => evalRepeat a p (f + 1) k b c
      cases k with
      | zero => exact pure _
      | succ k =>
        simp only [evalRepeat_succ]
        exact bind (ihB b) fun v => bind (ihR k b) fun vs => pure _
    · show P fun c => evalFields a p (f + 1) fs c
      cases fs with
      | nil => exact pure _
      | cons fld rest =>
        simp only [evalFields_cons]
        refine bind ?_ fun v => bind (ihFs rest) fun vs => pure _
        cases fld with
        | plain nm fd => exact ihF fd
        | optional nm ty => exact opt (ihI ty)
end closed

end Fx
