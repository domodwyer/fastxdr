/-
  Fx.Lemmas.ParseSim — `walk` reads a token tree only through its rule names, its shape, the texts of the identifier and
  number leaves, and the built-in type a `basic_type` text spells: the texts of composite tokens (which contain the layout)
  and the amount of white space inside a `basic_type` token are never looked at.
-/
import Fx.Walk
import Fx.Lemmas.ParseSyntax
namespace Fx.Parse
open Fx.Peg

theorem wsChar_isWs {c : Char} (h : isWsChar c = true) : Fx.isWs c = true := by
  rcases ws_cases h with rfl | rfl | rfl | rfl <;> decide

theorem wordsAux_word : ∀ (k rest cur : List Char), (∀ c ∈ k, Fx.isWs c = false) →
    wordsAux (k ++ rest) cur = wordsAux rest (k.reverse ++ cur) := by
  intro k
  induction k with
  | nil => intro rest cur _; simp
  | cons c k ih =>
    intro rest cur h
    have hc := h c (by simp)
    simp only [List.cons_append, wordsAux, hc, Bool.false_eq_true, if_false]
    rw [ih rest (c :: cur) (fun d hd => h d (by simp [hd]))]
    simp

theorem wordsAux_ws : ∀ (w rest : List Char), (∀ c ∈ w, Fx.isWs c = true) → wordsAux (w ++ rest) [] = wordsAux rest [] := by
  intro w
  induction w with
  | nil => intro rest _; simp
  | cons c w ih =>
    intro rest h
    have hc := h c (by simp)
    simp only [List.cons_append, wordsAux, hc, if_true, List.isEmpty_nil]
    exact ih rest (fun d hd => h d (by simp [hd]))

theorem wordsAux_ws_cur (w rest cur : List Char) (hw : ∀ c ∈ w, Fx.isWs c = true) (hne : w ≠ []) (hcur : cur ≠ []) :
    wordsAux (w ++ rest) cur = cur.reverse :: wordsAux rest [] := by
  cases w with
  | nil => exact absurd rfl hne
  | cons c w =>
    have hc := hw c (by simp)
    have : cur.isEmpty = false := by cases cur with | nil => exact absurd rfl hcur | cons _ _ => rfl
    simp only [List.cons_append, wordsAux, hc, if_true, this, Bool.false_eq_true, if_false]
    rw [wordsAux_ws w rest (fun d hd => hw d (by simp [hd]))]

theorem words_one (k t : List Char) (hk : ∀ c ∈ k, Fx.isWs c = false) (hkne : k ≠ []) (ht : ∀ c ∈ t, Fx.isWs c = true) (htne : t ≠ []) :
    wordsAux (k ++ t) [] = [k] := by
  have := wordsAux_word k (t ++ []) [] hk
  simp only [List.append_nil] at this
  rw [this, ← List.append_nil t, wordsAux_ws_cur t [] k.reverse ht htne (by simpa using hkne)]
  simp [wordsAux]

theorem words_two (k1 w k2 t : List Char) (hk1 : ∀ c ∈ k1, Fx.isWs c = false) (h1ne : k1 ≠ []) (hw : ∀ c ∈ w, Fx.isWs c = true)
    (hwne : w ≠ []) (hk2 : ∀ c ∈ k2, Fx.isWs c = false) (h2ne : k2 ≠ []) (ht : ∀ c ∈ t, Fx.isWs c = true) (htne : t ≠ []) :
    wordsAux (k1 ++ (w ++ (k2 ++ t))) [] = [k1, k2] := by
  rw [wordsAux_word k1 _ [] hk1, wordsAux_ws_cur w (k2 ++ t) _ hw hwne (by simpa using h1ne), words_one k2 t hk2 h2ne ht htne]
  simp

/-- the canonical spelling `BasicType::from` matches against -/
def Prim.canon : Prim → List Char
  | .int => ['i', 'n', 't']
  | .hyper => ['h', 'y', 'p', 'e', 'r']
  | .uint _ => ['u', 'n', 's', 'i', 'g', 'n', 'e', 'd', ' ', 'i', 'n', 't']
  | .uhyper _ => ['u', 'n', 's', 'i', 'g', 'n', 'e', 'd', ' ', 'h', 'y', 'p', 'e', 'r']
  | .float => ['f', 'l', 'o', 'a', 't']
  | .double => ['d', 'o', 'u', 'b', 'l', 'e']
  | .string => ['s', 't', 'r', 'i', 'n', 'g']
  | .opaque => ['o', 'p', 'a', 'q', 'u', 'e']

theorem normWs_prim (pr : Prim) (t : List Char) (hp : pr.ok = true) (ht : wsRun t = true) :
    normWs (String.ofList (pr.words ++ t)) = String.ofList pr.canon := by
  obtain ⟨htne, htw⟩ := wsRun_iff.mp ht
  have htw' : ∀ c ∈ t, Fx.isWs c = true := fun c hc => wsChar_isWs (htw c hc)
  simp only [normWs, String.toList_ofList]
  cases pr with
  | int | hyper | float | double | string | «opaque» =>
    rw [words_one _ t (by decide) (by decide) htw' htne]
    rfl
  | uint w | uhyper w =>
    obtain ⟨hwne, hww⟩ := wsRun_iff.mp (show wsRun w = true by simpa [Prim.ok, wsRun] using hp)
    have hww' : ∀ c ∈ w, Fx.isWs c = true := fun c hc => wsChar_isWs (hww c hc)
    rw [Prim.words, List.append_assoc, List.append_assoc,
      words_two _ w _ t (by decide) (by decide) hww' hwne (by decide) (by decide) htw' htne]
    rfl

theorem ofStr_prim (pr : Prim) (t t' : List Char) (w' : Prim) (hp : pr.ok = true) (ht : wsRun t = true)
    (hp' : w'.ok = true) (ht' : wsRun t' = true) (hc : pr.canon = w'.canon) :
    BasicType.ofStr (String.ofList (pr.words ++ t)) = BasicType.ofStr (String.ofList (w'.words ++ t')) := by
  rw [BasicType.ofStr, BasicType.ofStr, normWs_prim pr t hp ht, normWs_prim w' t' hp' ht', hc]

/-- what `walk` looks at beyond rule name and children -/
def leafCond (r : String) (t t' : List Char) (cs cs' : List Pair) : Bool :=
  if r == "ident" || r == "ident_const" || r == "ident_value" then t == t'
  else if r == "basic_type" then decide (BasicType.ofStr (String.ofList t) = BasicType.ofStr (String.ofList t'))
  else if r == "array_variable" || r == "array_fixed" then innerStr cs == innerStr cs'
  else true

mutual
def sim : Pair → Pair → Bool
  | .mk r t cs, .mk r' t' cs' => r == r' && leafCond r t t' cs cs' && simL cs cs'
def simL : List Pair → List Pair → Bool
  | [], [] => true
  | p :: ps, q :: qs => sim p q && simL ps qs
  | _, _ => false
end

mutual
theorem walk_sim : ∀ (p q : Pair), sim p q = true → walk p = walk q
  | .mk r t cs, .mk r' t' cs', h => by
    simp only [sim, Bool.and_eq_true, beq_iff_eq] at h
    obtain ⟨⟨hr, hleaf⟩, hcs⟩ := h
    subst hr
    have hall := walkAll_sim cs cs' hcs
    unfold walk
    -- a composite rule is a function of `walkAll cs`; a leaf rule of what `leafCond` compares for it.
    -- (No `rfl` here: on the leaf rules it would unfold `BasicType.ofStr` on both sides before failing.)
    split <;> first
      | (simp only [hall])
      | (simp [leafCond] at hleaf; simp only [hleaf])
theorem walkAll_sim : ∀ (ps qs : List Pair), simL ps qs = true → walkAll ps = walkAll qs
  | [], [], _ => rfl
  | p :: ps, q :: qs, h => by
    simp only [simL, Bool.and_eq_true] at h
    simp only [walkAll, walk_sim p q h.1, walkAll_sim ps qs h.2]
  | [], _ :: _, h => by simp [simL] at h
  | _ :: _, [], h => by simp [simL] at h
end

mutual
theorem sim_refl : ∀ (p : Pair), sim p p = true
  | .mk r t cs => by
    simp only [sim, beq_self_eq_true, Bool.true_and, Bool.and_eq_true]
    refine ⟨?_, simL_refl cs⟩
    simp only [leafCond]
    split
    · simp
    · split
      · simp
      · split <;> simp
theorem simL_refl : ∀ (ps : List Pair), simL ps ps = true
  | [] => rfl
  | p :: ps => by simp only [simL, sim_refl p, simL_refl ps, Bool.and_self]
end

theorem simL_append : ∀ (a a' b b' : List Pair), simL a a' = true → simL b b' = true → simL (a ++ b) (a' ++ b') = true := by
  intro a
  induction a with
  | nil =>
    intro a' b b' ha hb
    cases a' with
    | nil => simpa using hb
    | cons _ _ => simp [simL] at ha
  | cons p ps ih =>
    intro a' b b' ha hb
    cases a' with
    | nil => simp [simL] at ha
    | cons q qs =>
      simp only [simL, Bool.and_eq_true] at ha
      simp only [List.cons_append, simL, Bool.and_eq_true]
      exact ⟨ha.1, ih qs b b' ha.2 hb⟩

theorem simL_single {p q : Pair} (h : sim p q = true) : simL [p] [q] = true := by simp [simL, h]

theorem simL_elemToks {α : Type} (l : List α) (f : α → Elem) (n : α → α) (h : ∀ x ∈ l, simL (f x).TS (f (n x)).TS = true) :
    simL (elemToks (l.map f)) (elemToks ((l.map n).map f)) = true := by
  induction l with
  | nil => simp [elemToks, simL]
  | cons x xs ih =>
    simp only [List.map_cons, elemToks, List.flatten_cons]
    exact simL_append _ _ _ _ (h x (by simp)) (by simpa [elemToks] using ih (fun y hy => h y (by simp [hy])))

end Fx.Parse
