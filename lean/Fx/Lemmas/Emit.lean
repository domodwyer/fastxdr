/-
  Fx.Lemmas.Emit — inversion lemmas for `G.bind` and `mapG` (`… = .ok r` ↔ what the parts returned), the emitters' closed forms
  under `.useAlias`, and the lookup of an emitted item by the name of its declaration.
-/
import Fx.Emit
import Fx.Eval
import Fx.Lemmas.Bins
namespace Fx

theorem G.bind_eq_ok_iff {α β} {g : G α} {f : α → G β} {b : β} : g.bind f = .ok b ↔ ∃ a, g = .ok a ∧ f a = .ok b := by
  cases g <;> simp [G.bind]

theorem mapG_nil_ok {α β} {f : α → G β} {r : List β} : mapG f [] = .ok r ↔ r = [] := by
  simp [mapG, eq_comm]

theorem mapG_cons_ok {α β} {f : α → G β} {x : α} {xs : List α} {r : List β} :
    mapG f (x :: xs) = .ok r ↔ ∃ y ys, f x = .ok y ∧ mapG f xs = .ok ys ∧ r = y :: ys := by
  simp only [mapG, G.bind_eq_ok_iff, G.ok.injEq]
  exact ⟨fun ⟨y, hy, ys, hys, e⟩ => ⟨y, ys, hy, hys, e.symm⟩, fun ⟨y, ys, hy, hys, e⟩ => ⟨y, hy, ys, hys, e.symm⟩⟩

theorem mapG_ok_of_mem {α β} {f : α → G β} : ∀ {l : List α} {r : List β}, mapG f l = .ok r → ∀ x ∈ l, ∃ y, f x = .ok y
  | x :: xs, r, h, x', hx => by
    obtain ⟨y, ys, hy, hys, _⟩ := mapG_cons_ok.mp h
    rcases List.mem_cons.mp hx with rfl | hx
    · exact ⟨y, hy⟩
    · exact mapG_ok_of_mem hys x' hx

theorem mapG_ok_map {α β γ} {f : α → G β} {g : β → γ} {h : α → γ} (hf : ∀ x y, f x = .ok y → g y = h x) :
    ∀ (l : List α) (r : List β), mapG f l = .ok r → r.map g = l.map h
  | [], r, hr => by
    rw [mapG_nil_ok.mp hr]
    rfl
  | x :: xs, r, hr => by
    obtain ⟨y, ys, hy, hys, rfl⟩ := mapG_cons_ok.mp hr
    rw [List.map_cons, List.map_cons, hf x y hy, mapG_ok_map hf xs ys hys]

theorem mapG_eq_map {α β} {f : α → G β} {g : α → β} : ∀ {l : List α}, (∀ x ∈ l, f x = .ok (g x)) → mapG f l = .ok (l.map g)
  | [], _ => rfl
  | x :: xs, h => by
    simp only [mapG, h x List.mem_cons_self, mapG_eq_map fun y hy => h y (List.mem_cons_of_mem _ hy), G.bind_ok, List.map_cons]

def G.toOption {α} : G α → Option α
  | .ok a => some a
  | _ => none

theorem G.toOption_eq_some {α} {g : G α} {x : α} : G.toOption g = some x ↔ g = .ok x := by
  cases g <;> simp [G.toOption]

theorem mapG_eq_filterMap {α β} {f : α → G β} :
    ∀ {l : List α} {r : List β}, mapG f l = .ok r → r = l.filterMap fun x => G.toOption (f x)
  | [], r, h => mapG_nil_ok.mp h
  | x :: xs, r, h => by
    obtain ⟨y, ys, hy, hys, rfl⟩ := mapG_cons_ok.mp h
    simp only [List.filterMap_cons, hy, G.toOption, mapG_eq_filterMap hys]

theorem mapG_mem {α β} {f : α → G β} {l : List α} {r : List β} (h : mapG f l = .ok r) (y : β) (hy : y ∈ r) :
    ∃ x ∈ l, f x = .ok y := by
  rw [mapG_eq_filterMap h] at hy
  obtain ⟨x, hx, hf⟩ := List.mem_filterMap.mp hy
  exact ⟨x, hx, G.toOption_eq_some.mp hf⟩

theorem decodeBasic_alias (a : Ast) (t : BasicType) : decodeBasic a t .useAlias = .ok (decodeBasicAlias t) := by
  cases t <;> rfl

theorem printFixed_alias (a : Ast) {t : BasicType} (n : Nat) (ho : t ≠ .opaque) (hs : t ≠ .string) :
    printFixed a t n .useAlias = .ok (if n = 0 then .fixedArr 0 (.prim .u32) else .fixedArr n (decodeBasicAlias t)) := by
  -- `ho` and `hs` send the `match` on the element type to its last alternative
  simp only [printFixed, decodeBasic_alias, G.bind_ok]
  split <;> rfl

theorem printVariable_ident (a : Ast) (c : String) (lim : Option Nat) :
    printVariable a (.ident c) lim .useAlias =
      .ok (.varArr (BasicType.ident c).asSafeString (a.isGeneric (BasicType.ident c).asSafeString) lim) := rfl

def resolveOpt (a : Ast) : Option ArraySize → G (Option Nat)
  | none => .ok none
  | some sz => (resolveSize a sz).bind fun n => .ok (some n)

theorem decodeArray_variable (a : Ast) (t : BasicType) (m : Option ArraySize) (r : TypeResolve) :
    decodeArray a (.variable t m) r = (resolveOpt a m).bind fun lim => printVariable a t lim r := by
  cases m with
  | none => rfl
  | some sz =>
    simp only [decodeArray, resolveOpt]
    cases resolveSize a sz <;> rfl

theorem safeName_TRUE : safeName "TRUE" = "true" := by simp [safeName, isKeyword, rustKeywords]

theorem safeName_FALSE : safeName "FALSE" = "false" := by simp [safeName, isKeyword, rustKeywords]

theorem emitImpl_header {a : Ast} {t : AstType} {i : Impl} (h : emitImpl a t = .ok i) :
    i.name = t.rustName ∧ i.generic = a.isGeneric t.rustName := by
  cases t <;> simp only [emitImpl, G.bind_eq_ok_iff, G.ok.injEq] at h
  case enum =>
    subst h
    exact ⟨rfl, rfl⟩
  all_goals
    obtain ⟨_, _, rfl⟩ := h
    exact ⟨rfl, rfl⟩

theorem emitImpl_name {a : Ast} {t : AstType} {i : Impl} (h : emitImpl a t = .ok i) : i.name = t.rustName :=
  (emitImpl_header h).1

theorem emitImpl_generic {a : Ast} {t : AstType} {i : Impl} (h : emitImpl a t = .ok i) :
    i.generic = a.isGeneric t.rustName :=
  (emitImpl_header h).2

theorem emitSize_name (a : Ast) (t : AstType) : (emitSize a t).name = t.rustName := by
  cases t <;> rfl

theorem emitSize_generic (a : Ast) (t : AstType) : (emitSize a t).generic = a.isGeneric t.rustName := by
  cases t <;> rfl

theorem generateModule_ok {a : Ast} {m : Module} (h : generateModule a = .ok m) :
    m.types = emitTypes a ∧ emitFrom .bytes a = .ok m.fromBytes ∧ emitFrom .refMutBytes a = .ok m.fromRefMut ∧
    m.sizes = emitWireSize a := by
  simp only [generateModule, G.bind_eq_ok_iff, G.ok.injEq] at h
  obtain ⟨f1, h1, f2, h2, rfl⟩ := h
  exact ⟨rfl, h1, h2, rfl⟩

/-- `hp`: the search predicate looks at the key of the entry an item was emitted for -/
theorem find?_emitted {α β} (g : α → Option β) (p : β → Bool) (n : String) :
    ∀ (types : List (String × α)), (∀ kv ∈ types, ∀ y, g kv.2 = some y → p y = (kv.1 == n)) →
    ∀ {v : α} {y : β}, bget n types = some v → g v = some y → (types.filterMap fun kv => g kv.2).find? p = some y
  | [], _, _, _, hb, _ => by cases hb
  | (k, v') :: rest, hp, v, y, hb, hg => by
    have ih := find?_emitted g p n rest (fun kv h => hp kv (List.mem_cons_of_mem _ h)) (v := v) (y := y)
    simp only [bget] at hb
    split at hb
    · rename_i e
      cases hb
      simp only [List.filterMap_cons, hg, List.find?_cons, hp (k, v') List.mem_cons_self y hg, e, beq_self_eq_true]
    · rename_i hne
      simp only [List.filterMap_cons]
      cases hv : g v' with
      | none => exact ih hb hg
      | some y' =>
        simp only [List.find?_cons, hp (k, v') List.mem_cons_self y' hv, beq_false_of_ne (Ne.symm hne)]
        exact ih hb hg

theorem find_impl_of_types {a : Ast} {m : Module} (hg : generateModule a = .ok m) (hk : ∀ kv ∈ a.types, kv.1 = kv.2.rustName)
    {n : String} {ty : AstType} (hb : bget n a.types = some ty) : ∃ i, m.plans.findImpl n = some i ∧ emitImpl a ty = .ok i := by
  have h2 := (generateModule_ok hg).2.2.1
  simp only [emitFrom] at h2
  obtain ⟨i, hi⟩ := mapG_ok_of_mem h2 ty (List.mem_map.mpr ⟨_, mem_of_bget hb, rfl⟩)
  refine ⟨i, ?_, hi⟩
  have := mapG_eq_filterMap h2
  simp only [List.filterMap_map, Function.comp_def] at this
  simp only [Module.plans, Plans.findImpl, this]
  exact find?_emitted (fun ty => G.toOption (emitImpl a ty)) _ n a.types
    (fun kv hkv y hy => by rw [emitImpl_name (G.toOption_eq_some.mp hy), hk kv hkv]) hb (G.toOption_eq_some.mpr hi)

theorem find_size_of_types {a : Ast} {m : Module} (hg : generateModule a = .ok m) (hk : ∀ kv ∈ a.types, kv.1 = kv.2.rustName)
    {n : String} {ty : AstType} (hb : bget n a.types = some ty) : m.plans.findSize n = some (emitSize a ty) := by
  have h3 := (generateModule_ok hg).2.2.2
  simp only [Module.plans, Plans.findSize, h3, emitWireSize, ← List.filterMap_eq_map]
  exact find?_emitted (fun ty => some (emitSize a ty)) _ n a.types
    (fun kv hkv y hy => by
      cases hy
      rw [emitSize_name, hk kv hkv]) hb rfl

end Fx
