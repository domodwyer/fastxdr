/-
  Fx.Lemmas.ParseSyntax — the concrete syntax of the grammar of `src/xdr.pest` with a layout at every gap: for each piece
  its text, its well-formedness (`ok`, decidable) and the tokens the parser makes of it; at the end what each `ok` says, with
  named parts.  That the parser accepts the text with these tokens is Lemmas/ParseLayout … ParseSpec.
-/
import Fx.Peg
namespace Fx.Parse
open Fx.Peg

def kwConst : List Char := ['c', 'o', 'n', 's', 't']

def kwTypedef : List Char := ['t', 'y', 'p', 'e', 'd', 'e', 'f']

def kwEnum : List Char := ['e', 'n', 'u', 'm']

def kwStruct : List Char := ['s', 't', 'r', 'u', 'c', 't']

def kwVoid : List Char := ['v', 'o', 'i', 'd']

def kwCase : List Char := ['c', 'a', 's', 'e']

def kwDefault : List Char := ['d', 'e', 'f', 'a', 'u', 'l', 't']

def kwUnion : List Char := ['u', 'n', 'i', 'o', 'n']

def kwSwitch : List Char := ['s', 'w', 'i', 't', 'c', 'h']

def isWsChar (c : Char) : Bool := c == ' ' || c == '\t' || c == '\n' || c == '\r'

def isIdentChar (c : Char) : Bool := isAsciiAlnum c || c == '_'

theorem ws_cases {c : Char} (h : isWsChar c = true) : c = ' ' ∨ c = '\t' ∨ c = '\n' ∨ c = '\r' := by
  simpa [isWsChar, or_assoc] using h

theorem ws_not_ident {c : Char} (h : isWsChar c = true) : isIdentChar c = false := by
  rcases ws_cases h with rfl | rfl | rfl | rfl <;> decide

theorem ident_not_ws {c : Char} (h : isIdentChar c = true) : isWsChar c = false := by
  cases hw : isWsChar c with
  | false => rfl
  | true => rw [ws_not_ident hw] at h; exact absurd h (by simp)

/-- a block-comment body: no `*/` inside (a trailing `*` is fine: `/* a **/`) -/
def longBody : List Char → Bool
  | [] => true
  | c :: cs => !(c == '*' && cs.head? == some '/') && longBody cs

def shortBody (b : List Char) : Bool := b.all fun c => c != '\n' && c != '\r'

inductive Cmt where
  | long (body : List Char)
  | short (body : List Char)
deriving Repr

def Cmt.text : Cmt → List Char
  | .long b => '/' :: '*' :: (b ++ ['*', '/'])
  | .short b => '/' :: '/' :: b

def Cmt.ok : Cmt → Bool
  | .long b => longBody b
  | .short b => shortBody b

def Cmt.isShort : Cmt → Bool
  | .short _ => true
  | _ => false

structure Layout where
  lead : List Char
  segs : List (Cmt × List Char)
deriving Repr

def segsText : List (Cmt × List Char) → List Char
  | [] => []
  | (c, w) :: rest => c.text ++ w ++ segsText rest

def Layout.text (l : Layout) : List Char := l.lead ++ segsText l.segs

def allWs (w : List Char) : Bool := w.all isWsChar

def nlStart (w : List Char) : Bool :=
  match w with
  | c :: _ => c == '\n' || c == '\r'
  | [] => false

/-- a line comment is followed by a line end -/
def segsOk : List (Cmt × List Char) → Bool
  | [] => true
  | (c, w) :: rest => c.ok && allWs w && (!c.isShort || nlStart w) && segsOk rest

def Layout.ok (l : Layout) : Bool := allWs l.lead && segsOk l.segs

def nl : Layout := ⟨[], []⟩

theorem allWs_mem {w : List Char} (h : allWs w = true) : ∀ c ∈ w, isWsChar c = true := by
  simpa [allWs] using h

def allIdent (n : List Char) : Bool := n.all isIdentChar

def allDigit (n : List Char) : Bool := n.all isAsciiDigit

theorem allIdent_mem {n : List Char} (h : allIdent n = true) : ∀ c ∈ n, isIdentChar c = true := by simpa [allIdent] using h

theorem digit_ident {c : Char} (h : isAsciiDigit c = true) : isIdentChar c = true := by simp [isIdentChar, isAsciiAlnum, h]

/-- the words `basic_type` starts with -/
def typeWords : List (List Char) :=
  [['u', 'n', 's', 'i', 'g', 'n', 'e', 'd'], ['i', 'n', 't'], ['h', 'y', 'p', 'e', 'r'], ['f', 'l', 'o', 'a', 't'],
   ['d', 'o', 'u', 'b', 'l', 'e'], ['s', 't', 'r', 'i', 'n', 'g'], ['o', 'p', 'a', 'q', 'u', 'e']]

/-- a name the grammar reads as one identifier -/
def validIdent (n : List Char) : Bool := !n.isEmpty && allIdent n && !typeWords.contains n

theorem validIdent_iff {n : List Char} : validIdent n = true ↔ n ≠ [] ∧ allIdent n = true ∧ n ∉ typeWords := by
  simp only [validIdent, Bool.and_eq_true, Bool.not_eq_true', ← Bool.not_eq_true, List.contains_iff_mem, List.isEmpty_iff, and_assoc,
    ne_eq]

/-- a bound or a case label -/
inductive Lit where
  | num (ds : List Char)
  | name (n : List Char)
deriving Repr

def Lit.text : Lit → List Char
  | .num d => d
  | .name n => n

def Lit.ok : Lit → Bool
  | .num d => !d.isEmpty && allDigit d
  | .name n => validIdent n && (match n with | c :: _ => !isAsciiDigit c | [] => false)

def Lit.tokens : Lit → List Pair
  | .num d => [Pair.mk "ident_value" d []]
  | .name n => [Pair.mk "ident_const" n [Pair.mk "ident" n []]]

/-- an element of a repetition: its text, its tokens, the layout after it -/
structure Elem where
  T : List Char
  TS : List Pair
  L : Layout

def elemToks (els : List Elem) : List Pair := (els.map (·.TS)).flatten

def elemsText : List Elem → List Char
  | [] => []
  | el :: els => el.T ++ (el.L.text ++ elemsText els)

inductive Prim where
  | int | hyper
  | uint (w : List Char)       -- `unsigned`, white space, `int`
  | uhyper (w : List Char)
  | float | double | string | opaque
deriving Repr

def Prim.words : Prim → List Char
  | .int => ['i', 'n', 't']
  | .hyper => ['h', 'y', 'p', 'e', 'r']
  | .uint w => ['u', 'n', 's', 'i', 'g', 'n', 'e', 'd'] ++ (w ++ ['i', 'n', 't'])
  | .uhyper w => ['u', 'n', 's', 'i', 'g', 'n', 'e', 'd'] ++ (w ++ ['h', 'y', 'p', 'e', 'r'])
  | .float => ['f', 'l', 'o', 'a', 't']
  | .double => ['d', 'o', 'u', 'b', 'l', 'e']
  | .string => ['s', 't', 'r', 'i', 'n', 'g']
  | .opaque => ['o', 'p', 'a', 'q', 'u', 'e']

def Prim.ok : Prim → Bool
  | .uint w => !w.isEmpty && allWs w
  | .uhyper w => !w.isEmpty && allWs w
  | _ => true

def wsRun (w : List Char) : Bool := !w.isEmpty && allWs w

theorem wsRun_iff {w : List Char} : wsRun w = true ↔ w ≠ [] ∧ ∀ c ∈ w, isWsChar c = true := by
  simp only [wsRun, allWs, Bool.and_eq_true, Bool.not_eq_true', List.isEmpty_eq_false_iff, List.all_eq_true]

inductive TyRef where
  | named (n : List Char)
  | prim (pr : Prim) (trail : List Char)   -- the white space after the word belongs to the `basic_type` token
deriving Repr

def TyRef.text : TyRef → List Char
  | .named n => n
  | .prim pr t => pr.words ++ t

def TyRef.ok : TyRef → Bool
  | .named n => validIdent n
  | .prim pr t => pr.ok && wsRun t

def TyRef.tokens : TyRef → List Pair
  | .named n => [Pair.mk "ident" n []]
  | .prim pr t => [Pair.mk "basic_type" (pr.words ++ t) []]

inductive Arr where
  | var (l1 : Layout) (len : Option (Lit × Layout))     -- `<` l1 [len l2] `>`
  | fixed (l1 : Layout) (len : Lit) (l2 : Layout)       -- `[` l1 len l2 `]`
deriving Repr

def Arr.text : Arr → List Char
  | .var l1 none => ['<'] ++ (l1.text ++ ['>'])
  | .var l1 (some (n, l2)) => ['<'] ++ (l1.text ++ (n.text ++ (l2.text ++ ['>'])))
  | .fixed l1 n l2 => ['['] ++ (l1.text ++ (n.text ++ (l2.text ++ [']'])))

def Arr.ok : Arr → Bool
  | .var l1 none => l1.ok
  | .var l1 (some (n, l2)) => l1.ok && n.ok && l2.ok
  | .fixed l1 n l2 => l1.ok && n.ok && l2.ok

def Arr.tokens : Arr → List Pair
  | .var l1 none => [Pair.mk "array_variable" (Arr.var l1 none).text []]
  | .var l1 (some (n, l2)) => [Pair.mk "array_variable" (Arr.var l1 (some (n, l2))).text n.tokens]
  | .fixed l1 n l2 => [Pair.mk "array_fixed" (Arr.fixed l1 n l2).text n.tokens]

structure Field where
  ty : TyRef
  l1 : Layout
  star : Option Layout          -- `*` and the layout after it
  name : List Char
  l2 : Layout
  arr : Option (Arr × Layout)
deriving Repr

def Field.nameText (f : Field) : List Char :=
  match f.star with
  | none => f.name
  | some ls => ['*'] ++ (ls.text ++ f.name)

def arrSemi : Option (Arr × Layout) → List Char
  | none => [';']
  | some (a, l3) => a.text ++ (l3.text ++ [';'])

def Field.text (f : Field) : List Char := f.ty.text ++ (f.l1.text ++ (f.nameText ++ (f.l2.text ++ arrSemi f.arr)))

def Field.sepOk (f : Field) : Bool :=
  match f.ty, f.star with
  | .named _, none => !f.l1.text.isEmpty      -- two names need something between them
  | .named _, some _ => true
  | .prim _ _, _ => f.l1.lead.isEmpty         -- the white space after a built-in word is inside its token

def Field.ok (f : Field) : Bool :=
  f.ty.ok && f.l1.ok && (match f.star with | none => true | some ls => ls.ok) && validIdent f.name && f.l2.ok &&
  (match f.arr with | none => true | some (a, l3) => a.ok && l3.ok) && f.sepOk

def Field.nameToks (f : Field) : List Pair :=
  match f.star with
  | none => [Pair.mk "ident" f.name []]
  | some ls => [Pair.mk "option" (['*'] ++ (ls.text ++ f.name)) [Pair.mk "ident" f.name []]]

def arrToks : Option (Arr × Layout) → List Pair
  | none => []
  | some (a, _) => a.tokens

def Field.tokens (f : Field) : List Pair := f.ty.tokens ++ (f.nameToks ++ arrToks f.arr)

structure ConstD where
  l1 : Layout
  name : List Char
  l2 : Layout
  l3 : Layout
  val : List Char
  l4 : Layout
deriving Repr

def ConstD.text (d : ConstD) : List Char :=
  kwConst ++ (d.l1.text ++ (d.name ++ (d.l2.text ++ (['='] ++ (d.l3.text ++ (d.val ++ (d.l4.text ++ [';'])))))))

def ConstD.ok (d : ConstD) : Bool := d.l1.ok && validIdent d.name && d.l2.ok && d.l3.ok && validIdent d.val && d.l4.ok

def ConstD.tokens (d : ConstD) : List Pair :=
  [Pair.mk "constant" d.text [Pair.mk "ident" d.name [], Pair.mk "ident" d.val []]]

structure TypedefD where
  l0 : Layout
  f : Field          -- without `*`
deriving Repr

def TypedefD.text (d : TypedefD) : List Char := kwTypedef ++ (d.l0.text ++ d.f.text)

def TypedefD.ok (d : TypedefD) : Bool := d.l0.ok && d.f.ok && d.f.star.isNone

def TypedefD.tokens (d : TypedefD) : List Pair := [Pair.mk "typedef" d.text d.f.tokens]

structure VariantD where
  name : List Char
  l1 : Layout
  l2 : Layout
  val : List Char
deriving Repr

def VariantD.text (v : VariantD) : List Char := v.name ++ (v.l1.text ++ (['='] ++ (v.l2.text ++ v.val)))

def VariantD.ok (v : VariantD) : Bool := validIdent v.name && v.l1.ok && v.l2.ok && validIdent v.val

def VariantD.tokens (v : VariantD) : List Pair :=
  [Pair.mk "enum_variant" v.text [Pair.mk "ident" v.name [], Pair.mk "ident" v.val []]]

structure EnumD where
  l1 : Layout
  name : List Char
  l2 : Layout
  l3 : Layout
  first : VariantD
  lf : Layout
  more : List (Layout × VariantD × Layout)     -- `,` la variant lb
  l4 : Layout
deriving Repr

def moreElem (m : Layout × VariantD × Layout) : Elem := ⟨[','] ++ (m.1.text ++ m.2.1.text), m.2.1.tokens, m.2.2⟩

def EnumD.body (d : EnumD) : List Char :=
  d.first.text ++ (d.lf.text ++ (elemsText (d.more.map moreElem) ++ (['}'] ++ (d.l4.text ++ [';']))))

def EnumD.text (d : EnumD) : List Char :=
  kwEnum ++ (d.l1.text ++ (d.name ++ (d.l2.text ++ (['{'] ++ (d.l3.text ++ d.body)))))

def EnumD.ok (d : EnumD) : Bool :=
  d.l1.ok && validIdent d.name && d.l2.ok && d.l3.ok && d.first.ok && d.lf.ok &&
  d.more.all (fun m => m.1.ok && m.2.1.ok && m.2.2.ok) && d.l4.ok

def EnumD.tokens (d : EnumD) : List Pair :=
  [Pair.mk "enum_type" d.text (Pair.mk "ident" d.name [] :: (d.first.tokens ++ elemToks (d.more.map moreElem)))]

structure StructD where
  l1 : Layout
  name : List Char
  l2 : Layout
  l3 : Layout
  fields : List (Field × Layout)
  l4 : Layout
deriving Repr

def fieldElem (rule : String) (fl : Field × Layout) : Elem := ⟨fl.1.text, [Pair.mk rule fl.1.text fl.1.tokens], fl.2⟩

def StructD.text (d : StructD) : List Char :=
  kwStruct ++ (d.l1.text ++ (d.name ++ (d.l2.text ++ (['{'] ++ (d.l3.text ++
    (elemsText (d.fields.map (fieldElem "struct_data_field")) ++ (['}'] ++ (d.l4.text ++ [';']))))))))

def StructD.ok (d : StructD) : Bool :=
  d.l1.ok && validIdent d.name && d.l2.ok && d.l3.ok && d.fields.all (fun fl => fl.1.ok && fl.2.ok) && d.l4.ok

def StructD.tokens (d : StructD) : List Pair :=
  [Pair.mk "struct_type" d.text (Pair.mk "ident" d.name [] :: elemToks (d.fields.map (fieldElem "struct_data_field")))]

inductive Body where
  | void (l : Layout)
  | field (f : Field)
deriving Repr

def Body.text : Body → List Char
  | .void l => kwVoid ++ (l.text ++ [';'])
  | .field f => f.text

def Body.ok : Body → Bool
  | .void l => l.ok
  | .field f => f.ok

def Body.tokens : Body → List Pair
  | .void l => [Pair.mk "union_void" (Body.void l).text []]
  | .field f => [Pair.mk "union_data_field" f.text f.tokens]

inductive Arm where
  | case (la : Layout) (lab : Lit) (lb : Layout) (lc : Layout) (body : Option Body)
  | dflt (la : Layout) (lb : Layout) (body : Body)
deriving Repr

def optBodyText : Option Body → List Char
  | none => []
  | some b => b.text

def optBodyToks : Option Body → List Pair
  | none => []
  | some b => b.tokens

def Arm.text : Arm → List Char
  | .case la lab lb lc body => kwCase ++ (la.text ++ (lab.text ++ (lb.text ++ ([':'] ++ (lc.text ++ optBodyText body)))))
  | .dflt la lb body => kwDefault ++ (la.text ++ ([':'] ++ (lb.text ++ body.text)))

def Arm.ok : Arm → Bool
  | .case la lab lb lc body => la.ok && lab.ok && lb.ok && lc.ok && (match body with | none => true | some b => b.ok)
  | .dflt la lb body => la.ok && lb.ok && body.ok

def Arm.tokens : Arm → List Pair
  | .case la lab lb lc body => [Pair.mk "union_case" (Arm.case la lab lb lc body).text (lab.tokens ++ optBodyToks body)]
  | .dflt la lb body => [Pair.mk "union_default" (Arm.dflt la lb body).text body.tokens]

/-- a label without a body falls through: the next arm (or the brace) must follow directly, the layout after `:` is its own -/
def Arm.isFt : Arm → Bool
  | .case _ _ _ _ none => true
  | _ => false

def armElem (al : Arm × Layout) : Elem := ⟨al.1.text, al.1.tokens, al.2⟩

def armsOk (arms : List (Arm × Layout)) : Bool :=
  arms.all fun al => al.1.ok && al.2.ok && (!al.1.isFt || al.2.text.isEmpty)

structure UnionD where
  l1 : Layout
  name : List Char
  l2 : Layout
  l3 : Layout           -- after `switch`
  l4 : Layout           -- after `(`
  ty : TyRef
  l5 : Layout
  var : List Char
  l6 : Layout
  l7 : Layout           -- after `)`
  l8 : Layout           -- after `{`
  arms : List (Arm × Layout)
  l9 : Layout           -- after `}`
deriving Repr

def UnionD.text (d : UnionD) : List Char :=
  kwUnion ++ (d.l1.text ++ (d.name ++ (d.l2.text ++ (kwSwitch ++ (d.l3.text ++ (['('] ++ (d.l4.text ++ (d.ty.text ++ (d.l5.text ++
    (d.var ++ (d.l6.text ++ ([')'] ++ (d.l7.text ++ (['{'] ++ (d.l8.text ++
      (elemsText (d.arms.map armElem) ++ (['}'] ++ (d.l9.text ++ [';']))))))))))))))))))

def UnionD.sepOk (d : UnionD) : Bool :=
  match d.ty with
  | .named _ => !d.l5.text.isEmpty
  | .prim _ _ => d.l5.lead.isEmpty

def UnionD.ok (d : UnionD) : Bool :=
  d.l1.ok && validIdent d.name && d.l2.ok && d.l3.ok && d.l4.ok && d.ty.ok && d.l5.ok && validIdent d.var && d.l6.ok && d.l7.ok &&
  d.l8.ok && armsOk d.arms && d.l9.ok && d.sepOk && !d.l2.text.isEmpty   -- `switch` must not continue the name

def UnionD.tokens (d : UnionD) : List Pair :=
  [Pair.mk "union" d.text (Pair.mk "ident" d.name [] :: (d.ty.tokens ++ (Pair.mk "ident" d.var [] :: elemToks (d.arms.map armElem))))]

inductive Decl where
  | const (d : ConstD)
  | typedef (d : TypedefD)
  | enum (d : EnumD)
  | struct (d : StructD)
  | union (d : UnionD)
deriving Repr

def Decl.text : Decl → List Char
  | .const d => d.text | .typedef d => d.text | .enum d => d.text | .struct d => d.text | .union d => d.text

def Decl.ok : Decl → Bool
  | .const d => d.ok | .typedef d => d.ok | .enum d => d.ok | .struct d => d.ok | .union d => d.ok

def Decl.tokens : Decl → List Pair
  | .const d => d.tokens | .typedef d => d.tokens | .enum d => d.tokens | .struct d => d.tokens | .union d => d.tokens

structure Spec where
  l0 : Layout
  decls : List (Decl × Layout)
deriving Repr

def declElem (dl : Decl × Layout) : Elem := ⟨dl.1.text, dl.1.tokens, dl.2⟩

def Spec.text (s : Spec) : List Char := s.l0.text ++ elemsText (s.decls.map declElem)

def Spec.ok (s : Spec) : Bool := s.l0.ok && s.decls.all (fun dl => dl.1.ok && dl.2.ok)

def Spec.children (s : Spec) : List Pair := elemToks (s.decls.map declElem) ++ [Pair.mk "EOI" [] []]

def Spec.root (s : Spec) : Pair := Pair.mk "item" s.text s.children

/-! What each `ok` says; consumers go through these, so the Boolean conjunctions stay free.  A structure `X` gets `X.Ok`
(named fields) and `X.of_ok`; an inductive type one lemma `X.c_ok` per constructor (a conjunction in the order of its
arguments); a recursive predicate its `_cons` lemma. -/

structure Layout.Ok (l : Layout) : Prop where
  lead : allWs l.lead = true
  segs : segsOk l.segs = true

theorem Layout.of_ok {l : Layout} (h : l.ok = true) : l.Ok := by
  simp only [Layout.ok, Bool.and_eq_true] at h
  exact ⟨h.1, h.2⟩

theorem segsOk_cons {c : Cmt} {w : List Char} {rest : List (Cmt × List Char)} (h : segsOk ((c, w) :: rest) = true) :
    c.ok = true ∧ allWs w = true ∧ (c.isShort = true → nlStart w = true) ∧ segsOk rest = true := by
  simp only [segsOk, Bool.and_eq_true, Bool.or_eq_true, Bool.not_eq_true', and_assoc] at h
  obtain ⟨hc, hw, hsh, hrest⟩ := h
  refine ⟨hc, hw, fun hs => ?_, hrest⟩
  rcases hsh with h | h
  · rw [hs] at h
    cases h
  · exact h

theorem Lit.num_ok {d : List Char} (h : (Lit.num d).ok = true) : d ≠ [] ∧ allDigit d = true := by
  simpa only [Lit.ok, Bool.and_eq_true, Bool.not_eq_true', List.isEmpty_eq_false_iff] using h

theorem Lit.name_ok {n : List Char} (h : (Lit.name n).ok = true) :
    validIdent n = true ∧ ∃ c cs, n = c :: cs ∧ isAsciiDigit c = false := by
  simp only [Lit.ok, Bool.and_eq_true] at h
  refine ⟨h.1, ?_⟩
  cases n with
  | nil => cases h.2
  | cons c cs => exact ⟨c, cs, rfl, by simpa using h.2⟩

theorem TyRef.prim_ok {pr : Prim} {t : List Char} (h : (TyRef.prim pr t).ok = true) : pr.ok = true ∧ wsRun t = true := by
  simpa only [TyRef.ok, Bool.and_eq_true] using h

theorem Arr.var_ok {l1 : Layout} {len : Option (Lit × Layout)} (h : (Arr.var l1 len).ok = true) :
    l1.ok = true ∧ ∀ bl ∈ len, bl.1.ok = true ∧ bl.2.ok = true := by
  cases len with
  | none => exact ⟨h, nofun⟩
  | some bl =>
    obtain ⟨n, l2⟩ := bl
    simp only [Arr.ok, Bool.and_eq_true] at h
    refine ⟨h.1.1, fun x hx => ?_⟩
    cases Option.mem_def.mp hx
    exact ⟨h.1.2, h.2⟩

theorem Arr.fixed_ok {l1 l2 : Layout} {n : Lit} (h : (Arr.fixed l1 n l2).ok = true) : l1.ok = true ∧ n.ok = true ∧ l2.ok = true := by
  simpa only [Arr.ok, Bool.and_eq_true, and_assoc] using h

/-- what `Field.sepOk` and `UnionD.sepOk` ask of the layout after a type reference; `sym`: a symbol follows (the `*` of an
    optional field) -/
def TyRef.Sep (t : TyRef) (L : Layout) (sym : Bool) : Prop :=
  match t with
  | .named _ => sym = true ∨ L.text ≠ []
  | .prim _ _ => L.lead = []

structure Field.Ok (f : Field) : Prop where
  ty : f.ty.ok = true
  l1 : f.l1.ok = true
  star : ∀ ls ∈ f.star, ls.ok = true
  name : validIdent f.name = true
  l2 : f.l2.ok = true
  arr : ∀ al ∈ f.arr, al.1.ok = true ∧ al.2.ok = true
  sep : f.ty.Sep f.l1 f.star.isSome

theorem Field.of_ok {f : Field} (h : f.ok = true) : f.Ok := by
  simp only [Field.ok, Bool.and_eq_true] at h
  obtain ⟨⟨⟨⟨⟨⟨hty, hl1⟩, hstar⟩, hname⟩, hl2⟩, harr⟩, hsep⟩ := h
  refine ⟨hty, hl1, fun ls hls => ?_, hname, hl2, fun al hal => ?_, ?_⟩
  · rw [Option.mem_def.mp hls] at hstar
    exact hstar
  · obtain ⟨a, l3⟩ := al
    rw [Option.mem_def.mp hal] at harr
    simpa only [Bool.and_eq_true] using harr
  · rw [Field.sepOk] at hsep
    revert hsep
    cases f.ty <;> cases f.star <;> simp [TyRef.Sep]

structure ConstD.Ok (d : ConstD) : Prop where
  l1 : d.l1.ok = true
  name : validIdent d.name = true
  l2 : d.l2.ok = true
  l3 : d.l3.ok = true
  val : validIdent d.val = true
  l4 : d.l4.ok = true

theorem ConstD.of_ok {d : ConstD} (h : d.ok = true) : d.Ok := by
  simp only [ConstD.ok, Bool.and_eq_true] at h
  obtain ⟨⟨⟨⟨⟨h1, hn⟩, h2⟩, h3⟩, hv⟩, h4⟩ := h
  exact ⟨h1, hn, h2, h3, hv, h4⟩

structure TypedefD.Ok (d : TypedefD) : Prop where
  l0 : d.l0.ok = true
  f : d.f.ok = true
  star : d.f.star = none

theorem TypedefD.of_ok {d : TypedefD} (h : d.ok = true) : d.Ok := by
  simp only [TypedefD.ok, Bool.and_eq_true, Option.isNone_iff_eq_none] at h
  exact ⟨h.1.1, h.1.2, h.2⟩

structure VariantD.Ok (v : VariantD) : Prop where
  name : validIdent v.name = true
  l1 : v.l1.ok = true
  l2 : v.l2.ok = true
  val : validIdent v.val = true

theorem VariantD.of_ok {v : VariantD} (h : v.ok = true) : v.Ok := by
  simp only [VariantD.ok, Bool.and_eq_true] at h
  obtain ⟨⟨⟨hn, h1⟩, h2⟩, hv⟩ := h
  exact ⟨hn, h1, h2, hv⟩

structure EnumD.Ok (d : EnumD) : Prop where
  l1 : d.l1.ok = true
  name : validIdent d.name = true
  l2 : d.l2.ok = true
  l3 : d.l3.ok = true
  first : d.first.ok = true
  lf : d.lf.ok = true
  more : ∀ m ∈ d.more, m.1.ok = true ∧ m.2.1.ok = true ∧ m.2.2.ok = true
  l4 : d.l4.ok = true

theorem EnumD.of_ok {d : EnumD} (h : d.ok = true) : d.Ok := by
  simp only [EnumD.ok, Bool.and_eq_true, List.all_eq_true, and_assoc] at h
  obtain ⟨h1, hn, h2, h3, hfirst, hlf, hmore, h4⟩ := h
  exact ⟨h1, hn, h2, h3, hfirst, hlf, hmore, h4⟩

structure StructD.Ok (d : StructD) : Prop where
  l1 : d.l1.ok = true
  name : validIdent d.name = true
  l2 : d.l2.ok = true
  l3 : d.l3.ok = true
  fields : ∀ fl ∈ d.fields, fl.1.ok = true ∧ fl.2.ok = true
  l4 : d.l4.ok = true

theorem StructD.of_ok {d : StructD} (h : d.ok = true) : d.Ok := by
  simp only [StructD.ok, Bool.and_eq_true, List.all_eq_true, and_assoc] at h
  obtain ⟨h1, hn, h2, h3, hf, h4⟩ := h
  exact ⟨h1, hn, h2, h3, hf, h4⟩

theorem Arm.case_ok {la lb lc : Layout} {lab : Lit} {body : Option Body} (h : (Arm.case la lab lb lc body).ok = true) :
    la.ok = true ∧ lab.ok = true ∧ lb.ok = true ∧ lc.ok = true ∧ ∀ b ∈ body, b.ok = true := by
  simp only [Arm.ok, Bool.and_eq_true, and_assoc] at h
  obtain ⟨hla, hlab, hlb, hlc, hb⟩ := h
  refine ⟨hla, hlab, hlb, hlc, fun b hbm => ?_⟩
  rw [Option.mem_def.mp hbm] at hb
  exact hb

theorem Arm.dflt_ok {la lb : Layout} {body : Body} (h : (Arm.dflt la lb body).ok = true) :
    la.ok = true ∧ lb.ok = true ∧ body.ok = true := by
  simpa only [Arm.ok, Bool.and_eq_true, and_assoc] using h

theorem armsOk_iff {arms : List (Arm × Layout)} :
    armsOk arms = true ↔ ∀ al ∈ arms, al.1.ok = true ∧ al.2.ok = true ∧ (al.1.isFt = true → al.2.text = []) := by
  simp only [armsOk, List.all_eq_true, Bool.and_eq_true, Bool.or_eq_true, Bool.not_eq_true', List.isEmpty_iff, and_assoc]
  refine forall₂_congr fun al _ => and_congr_right fun _ => and_congr_right fun _ => ?_
  cases al.1.isFt <;> simp

structure UnionD.Ok (d : UnionD) : Prop where
  l1 : d.l1.ok = true
  name : validIdent d.name = true
  l2 : d.l2.ok = true
  l3 : d.l3.ok = true
  l4 : d.l4.ok = true
  ty : d.ty.ok = true
  l5 : d.l5.ok = true
  var : validIdent d.var = true
  l6 : d.l6.ok = true
  l7 : d.l7.ok = true
  l8 : d.l8.ok = true
  arms : ∀ al ∈ d.arms, al.1.ok = true ∧ al.2.ok = true ∧ (al.1.isFt = true → al.2.text = [])
  l9 : d.l9.ok = true
  sep : d.ty.Sep d.l5 false
  l2ne : d.l2.text ≠ []

theorem UnionD.of_ok {d : UnionD} (h : d.ok = true) : d.Ok := by
  simp only [UnionD.ok, Bool.and_eq_true, Bool.not_eq_true', List.isEmpty_eq_false_iff, and_assoc] at h
  obtain ⟨h1, hn, h2, h3, h4, hty, h5, hv, h6, h7, h8, harms, h9, hsep, h2ne⟩ := h
  refine ⟨h1, hn, h2, h3, h4, hty, h5, hv, h6, h7, h8, armsOk_iff.mp harms, h9, ?_, h2ne⟩
  rw [UnionD.sepOk] at hsep
  revert hsep
  cases d.ty <;> simp [TyRef.Sep]

structure Spec.Ok (s : Spec) : Prop where
  l0 : s.l0.ok = true
  decls : ∀ dl ∈ s.decls, dl.1.ok = true ∧ dl.2.ok = true

theorem Spec.of_ok {s : Spec} (h : s.ok = true) : s.Ok := by
  simp only [Spec.ok, Bool.and_eq_true, List.all_eq_true] at h
  exact ⟨h.1, h.2⟩

end Fx.Parse
