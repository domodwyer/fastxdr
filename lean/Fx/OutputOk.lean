/-
  Fx.OutputOk — a decidable well-formedness judgement on emitted modules that stands in
  for rustc (DESIGN §6 C07).  Its agreement with rustc is measured on every compiled batch.
-/
import Fx.Lemmas.NoPanic
import Fx.Supported
namespace Fx

def primNames : List String := ["u32", "u64", "i32", "i64", "f32", "f64", "bool"]

/-- names a generated module may not use for its own items -/
def reservedTypeNames : List String :=
  rustKeywords ++ primNames ++ ["u8", "u16", "u128", "i8", "i16", "i128", "usize", "isize", "char", "String", "T", "Bytes", "Error",
    "Vec", "Option", "Box", "Result", "Self", "Some", "None", "Ok", "Err", "WireSize", "DeserialiserExt", "TryFrom", "Debug", "Buf"]

/-- local bindings of header.rs and of the emitted decoders: a tuple struct (typedef) or constant of the same
    name cannot be shadowed by `let`/pattern bindings (E0530) — finding K9 -/
def headerBindings : List String :=
  ["v", "inner", "n", "t", "b", "x", "l", "e", "sum", "out", "data", "limit", "pad", "padded", "max"]

def isIdent (s : String) : Bool :=
  match s.toList with
  | [] => false
  | c :: cs => (c.isAlpha || c = '_') && cs.all (fun c => c.isAlphanum || c = '_') && s != "_"

def declName : TypeDecl → String
  | .const n _ => n | .struct n _ _ => n | .union n _ _ => n | .enum n _ => n | .typedef n _ _ _ => n

def declGeneric : TypeDecl → Bool
  | .struct _ g _ => g | .union _ g _ => g | .typedef _ g _ _ => g | _ => false

def isTypeDecl : TypeDecl → Bool
  | .const _ _ => false
  | _ => true

def findDecl (m : Module) (n : String) : Option TypeDecl := m.types.find? fun d => isTypeDecl d && declName d == n

def TyExpr.usesT : TyExpr → Bool
  | .t => true | .pathT _ => true | .path _ => false | .string => false
  | .arr e _ => e.usesT | .vec e => e.usesT | .optBox e => e.usesT

/-- every named type resolves, with a parameter list iff its declaration has one -/
def TyExpr.wellFormed (m : Module) : TyExpr → Bool
  | .t => true
  | .string => true
  | .path s => primNames.contains s || (match findDecl m s with | some d => !declGeneric d | none => false)
  | .pathT s => (match findDecl m s with | some d => declGeneric d | none => false)
  | .arr e _ => e.wellFormed m
  | .vec e => e.wellFormed m
  | .optBox e => e.wellFormed m

def namedTy (m : Module) (n : String) : TyExpr :=
  match findDecl m n with
  | some d => if declGeneric d then .pathT n else .path n
  | none => .path n

def primTy : Prim → TyExpr
  | .u32 => .path "u32" | .u64 => .path "u64" | .i32 => .path "i32" | .i64 => .path "i64"
  | .f32 => .path "f32" | .f64 => .path "f64" | .bool => .path "bool"

/-- the Rust type of the value a decode expression produces (at `T := Bytes`) -/
def BasicDec.ty (m : Module) : BasicDec → TyExpr
  | .prim p => primTy p
  | .string => .string
  | .opaque => .t
  | .tryFrom n => namedTy m n

def tyEq : TyExpr → TyExpr → Bool
  | .t, .t => true
  | .string, .string => true
  | .path a, .path b => a == b
  | .pathT a, .pathT b => a == b
  | .arr a _, .arr b _ => tyEq a b           -- lengths compared separately
  | .vec a, .vec b => tyEq a b
  | .optBox a, .optBox b => tyEq a b
  | _, _ => false

def arrLen (a : Ast) : TyExpr → Option Nat
  | .arr _ s => (match resolveSize a s with | .ok n => some n | _ => none)
  | _ => none

/-- does a decode expression produce the declared type? -/
def FieldDec.fits (a : Ast) (m : Module) (fd : FieldDec) (declared : TyExpr) : Bool :=
  match fd with
  | .one b => tyEq (b.ty m) declared
  | .fixedBytes _ => tyEq .t declared
  | .fixedArr n b => (match declared with
      | .arr e _ => (n == 0 || tyEq (b.ty m) e) && arrLen a declared == some n
      | _ => false)
  | .varBytes _ => tyEq .t declared
  | .varString _ => tyEq .string declared
  | .varArr ty g _ =>
    (match declared with
     | .vec e => tyEq (if g then .pathT ty else .path ty) e && (findDecl m ty).isSome && (match findDecl m ty with | some d => declGeneric d == g | none => false)
     | _ => false)

inductive ScrutTy where
  | int (p : Prim)        -- u32 / i32 / u64 / i64
  | bool
  | enum (name : String)
  | other
deriving Repr, DecidableEq

def scrutTyOf (a : Ast) : BasicDec → ScrutTy
  | .prim .u32 => .int .u32 | .prim .i32 => .int .i32 | .prim .u64 => .int .u64 | .prim .i64 => .int .i64
  | .prim .bool => .bool
  | .tryFrom n => (match enumOf a n with | some _ => .enum n | none => .other)
  | _ => .other

def intFits : Prim → Nat → Bool
  | .u32, n => n < 2^32 | .i32, n => n < 2^31 | .u64, n => n < 2^64 | .i64, n => n < 2^63
  | _, _ => false

/-- is a verbatim pattern well-typed against the scrutinee? -/
def litOk (a : Ast) (st : ScrutTy) (text : String) : Bool :=
  match parseIntLit text with
  | some n => (match st with | .int p => intFits p n | _ => false)
  | none =>
    if text == "true" || text == "false" then st == .bool
    else if !isIdent text then false
    else match a.getConst text with
      | some (.constValue _) => st == .int .u32        -- a `pub const X: u32` used as a constant pattern
      | _ => !(isKeyword text)                          -- any other identifier is a binding

def patOk (a : Ast) (st : ScrutTy) : Pat → Bool
  | .wild => true
  | .lit t => litOk a st t
  | .guard e v castTy =>
    (enumDisc a e v).isSome &&
    (match st with
     | .int p => castTy == (match p with | .u32 => "u32" | .i32 => "i32" | .u64 => "u64" | .i64 => "i64" | _ => "")
     | .enum n => castTy == n && e == n
     | _ => false)

def variantNamesNodup (vs : List String) : Bool := (vs.map nonDigitName).eraseDups.length == vs.length

def findVariant (vs : List (String × Option TyExpr)) (v : String) : Option (Option TyExpr) :=
  (vs.find? fun x => nonDigitName x.1 == nonDigitName v).map (·.2)

/-- the part of `implOk` that is about *types*: the decoder of a declaration produces exactly the type the type emitter
    declared — parameter list, every field, every variant payload, every pattern against the scrutinee's type
    (proved for every supported specification: `Lemmas/Fits`, `C07_decoders_fit_declarations`) -/
def implFits (a : Ast) (m : Module) (i : Impl) : Bool :=
  match findDecl m i.name with
  | none => false
  | some d =>
    declGeneric d == i.generic && i.body.okFor m.plans &&
    (match i.body, d with
     | .struct fs, .struct _ _ dfs =>
       fs.length == dfs.length &&
       (fs.zip dfs).all fun (f, (dn, dt)) =>
         (match f with
          | .plain n fd => n == dn && fd.fits a m dt
          | .optional n ty => n == dn && tyEq (.optBox (namedTy m ty)) dt && (findDecl m ty).isSome)
     | .union u, .union _ _ vs =>
       let st := scrutTyOf a u.disc
       st != .other &&
       u.arms.all (fun arm => patOk a st arm.pat &&
         (match findVariant vs arm.variant, arm.payload with
          | some (some t), some fd => fd.fits a m t
          | some none, none => true
          | _, _ => false)) &&
       (match u.tail with
        | .defaultData fd => (match findVariant vs "default" with | some (some t) => fd.fits a m t | _ => false)
        | _ => true)
     | .enum arms, .enum _ vs =>
       arms.all (fun (p, mem) => (match p with | .numeric n => 0 ≤ n && n < 2^31 | .str _ => false) && (vs.any fun x => x.1 == mem))
     | .typedef fd, .typedef _ _ _ inner => fd.fits a m inner
     | _, _ => false)

/-- the part of `implOk` that is about *names*: the switch variable is bound by a `let` in the emitted decoder, next to the
    buffer `v` -/
def implHygiene (m : Module) (i : Impl) : Bool :=
  match i.body with
  | .union u =>
    u.swVar != "v" && isIdent (safeName u.swVar) &&
    -- `let <switch variable> = …`: a `let` binding cannot shadow a tuple struct (a typedef of the module) or a constant (E0530, finding K9)
    !(m.types.any fun d => match d with
        | .const n _ => n == safeName u.swVar
        | .typedef n _ _ _ => n == safeName u.swVar
        | _ => false)
  | _ => true

def implOk (a : Ast) (m : Module) (i : Impl) : Bool := implFits a m i && implHygiene m i

/-- does the module bind `d` (`d => return Err(..)`) / `c` (`c if c == ..`) in a pattern? -/
def usesD (m : Module) : Bool :=
  m.fromRefMut.any fun i => match i.body with
    | .enum _ => true
    | .union u => (match u.tail with | .errUnknown => true | _ => false)
    | .struct fs => fs.any fun f => match f with | .optional _ _ => true | _ => false
    | .typedef _ => false

def usesC (m : Module) : Bool :=
  m.fromRefMut.any fun i => match i.body with
    | .union u => u.arms.any fun arm => match arm.pat with | .guard _ _ _ => true | _ => false
    | _ => false

def bindingNamesOf (m : Module) : List String :=
  headerBindings ++ (if usesD m then ["d"] else []) ++ (if usesC m then ["c"] else [])

/-- the value of a `pub const X: u32 = v;`: an integer literal that fits, or the name of another constant of the module whose own
    value resolves (rustc rejects a cycle) -/
def constResolves (m : Module) : Nat → String → Bool
  | 0, _ => false
  | fuel + 1, v =>
    match parseIntLit v with
    | some x => x < 2^32
    | none =>
      isIdent v && !(isKeyword v) &&
      (match m.types.find? (fun d => match d with | .const n _ => n == v | _ => false) with
       | some (.const _ v') => constResolves m fuel v'
       | _ => false)

/-- the part of `declOk` that is about *types*: every type written in the declaration resolves (with a parameter list iff the
    named declaration has one), and the declaration itself carries the parameter exactly when it is used
    (proved for every supported specification: `declarations_fit`, Lemmas/Fits) -/
def declFits (m : Module) : TypeDecl → Bool
  | .struct _ g fs => fs.all (fun f => f.2.wellFormed m) && (fs.any (·.2.usesT)) == g
  | .union _ g vs =>
    vs.all (fun v => match v.2 with | some t => t.wellFormed m | none => true) &&
    (vs.any fun v => match v.2 with | some t => t.usesT | none => false) == g
  | .typedef _ g _ inner => inner.wellFormed m && inner.usesT == g
  | _ => true

/-- the part of `declOk` that is about *names and values*: identifiers, reserved names, the bindings of finding K9, duplicate
    fields / variants / members / values, constant values that resolve and fit -/
def declHygiene (m : Module) : TypeDecl → Bool
  | .const n v => isIdent n && !(reservedTypeNames.contains n) &&
      -- a constant named like a `let` binding or like the `d` of `d => return Err(..)` does not compile (E0530 / E0004); one named `c`
      -- does: `c if c == E::V as ty` then reads `c` as a constant pattern (finding K14 — it compiles and decodes wrongly)
      !(((bindingNamesOf m).filter (· != "c")).contains n) &&
      constResolves m (m.types.length + 1) v
  | .struct n _ fs =>
    isIdent n && !(reservedTypeNames.contains n) && fs.all (fun f => isIdent (safeName f.1)) &&
    ((fs.map fun f => safeName f.1).eraseDups.length == fs.length)
  | .union n _ vs =>
    isIdent n && !(reservedTypeNames.contains n) &&
    vs.all (fun v => isIdent (nonDigitName v.1) && !(isKeyword (nonDigitName v.1))) && variantNamesNodup (vs.map (·.1))
  | .enum n vs =>
    isIdent n && !(reservedTypeNames.contains n) && !vs.isEmpty &&
    vs.all (fun v => isIdent v.1 && !(isKeyword v.1) && (match parseIntLit v.2 with | some x => x < 2^32 | none => false)) &&
    ((vs.map (·.1)).eraseDups.length == vs.length) &&
    ((vs.filterMap fun v => parseIntLit v.2).eraseDups.length == vs.length)
  | .typedef n _ _ _ => isIdent n && !(reservedTypeNames.contains n) && !((bindingNamesOf m).contains n)

def declOk (_a : Ast) (m : Module) (d : TypeDecl) : Bool := declFits m d && declHygiene m d

/-- names used in a type expression without indirection (`Vec`, `Box`): a cycle through these is an infinite type -/
def TyExpr.directRefs : TyExpr → List String
  | .path s => [s] | .pathT s => [s]
  | .arr e _ => e.directRefs
  | .vec _ => [] | .optBox _ => [] | .t => [] | .string => []

def declDirectRefs : TypeDecl → List String
  | .struct _ _ fs => (fs.map fun f => f.2.directRefs).flatten
  | .union _ _ vs => (vs.map fun v => match v.2 with | some t => t.directRefs | none => []).flatten
  | .typedef _ _ _ inner => inner.directRefs
  | _ => []

/-- can `target` be reached from `from_` through direct (unboxed) containment within `fuel` steps? -/
def reachesDirect (m : Module) : Nat → String → String → Bool
  | 0, _, _ => false
  | fuel+1, from_, target =>
    match findDecl m from_ with
    | none => false
    | some d => (declDirectRefs d).any fun r => r == target || reachesDirect m fuel r target

def noInfiniteType (m : Module) : Bool :=
  m.types.all fun d => !(isTypeDecl d) || !(reachesDirect m (m.types.length + 1) (declName d) (declName d))

/-- the judgement: every declaration is well-formed, every impl fits its declaration, all names are distinct,
    no type contains itself without indirection -/
def outputOk (a : Ast) (m : Module) : Bool :=
  m.types.all (declOk a m) &&
  m.fromRefMut.all (implOk a m) &&
  decide (m.fromBytes = m.fromRefMut) &&
  (let tyNames := (m.types.filter isTypeDecl).map declName
   let valNames := m.types.filterMap fun d => match d with
     | .const n _ => some n | .typedef n _ _ _ => some n | _ => none
   tyNames.eraseDups.length == tyNames.length && valNames.eraseDups.length == valNames.length) &&
  (m.fromRefMut.map (·.name)) == (m.sizes.map (·.name)) &&
  noInfiniteType m

/-- a struct / union declaration carries the byte-container parameter exactly when one of its field / payload types mentions it
    (what `C13_struct_param_iff_used` / `C13_union_param_iff_used` prove of every `Ast` the front end builds) -/
def paramsUsed (a : Ast) : Bool :=
  a.types.all fun kv =>
    match kv.2 with
    | .struct s => a.isGeneric kv.1 ==
        (s.fields.any fun f => (if f.isOptional then TyExpr.optBox (payloadTy a f.fieldValue) else payloadTy a f.fieldValue).usesT)
    | .union u => a.isGeneric kv.1 == ((unionVariants a u).any fun v => match v.2 with | some t => t.usesT | none => false)
    | _ => true

/-- the *type* part of `outputOk`: what the three emitters must agree on -/
def outputTypesOk (a : Ast) (m : Module) : Bool :=
  m.types.all (declFits m) && m.fromRefMut.all (implFits a m) && decide (m.fromBytes = m.fromRefMut) &&
  (m.fromRefMut.map (·.name)) == (m.sizes.map (·.name))

/-- the *name* part of `outputOk`: what depends on the names the specification chooses (and on recursion without indirection) -/
def outputHygiene (m : Module) : Bool :=
  m.types.all (declHygiene m) && m.fromRefMut.all (implHygiene m) &&
  (let tyNames := (m.types.filter isTypeDecl).map declName
   let valNames := m.types.filterMap fun d => match d with
     | .const n _ => some n | .typedef n _ _ _ => some n | _ => none
   tyNames.eraseDups.length == tyNames.length && valNames.eraseDups.length == valNames.length) &&
  noInfiniteType m

theorem tyEq_refl : ∀ (t : TyExpr), tyEq t t = true
  | .t => rfl
  | .string => rfl
  | .path a => by simp [tyEq]
  | .pathT a => by simp [tyEq]
  | .arr e _ => by simp only [tyEq]; exact tyEq_refl e
  | .vec e => by simp only [tyEq]; exact tyEq_refl e
  | .optBox e => by simp only [tyEq]; exact tyEq_refl e

theorem all_and' {α} (p q : α → Bool) : ∀ (l : List α), l.all (fun x => p x && q x) = (l.all p && l.all q)
  | [] => rfl
  | x :: xs => by
    simp only [List.all_cons, all_and' p q xs]
    ac_rfl

theorem outputOk_split (a : Ast) (m : Module) : outputOk a m = (outputTypesOk a m && outputHygiene m) := by
  have h1 : m.types.all (declOk a m) = (m.types.all (declFits m) && m.types.all (declHygiene m)) := all_and' _ _ _
  have h2 : m.fromRefMut.all (implOk a m) = (m.fromRefMut.all (implFits a m) && m.fromRefMut.all (implHygiene m)) := all_and' _ _ _
  -- the same conjuncts on both sides, grouped differently
  simp only [outputOk, outputTypesOk, outputHygiene, h1, h2]
  ac_rfl

end Fx
