/-
  C06 — only declared discriminants are accepted; each selects its own arm: strictness of bool / optional marker /
  enum / union tail for every word, and at specification level the arm selection and what an accepted input holds.
-/
import Fx.Lemmas.Decodes
namespace Fx.C06
open Fx

/-- a boolean other than 0/1 is `InvalidBoolean` (all 2^32 words) -/
theorem C06_bool_strict (n : Nat) (h : n < 2^32) (h0 : n ≠ 0) (h1 : n ≠ 1) (o : Nat) (s : List Byte) (l) :
    readBool ⟨o, be32 n ++ s, l⟩ = .err .invalidBoolean l := by
  rw [readBool_be32 n h]; simp [h0, h1]

/-- an optional-data marker other than 0/1 is `UnknownOptionVariant(marker)`: at every position of an optional field, every word -/
theorem C06_marker_strict (a : Ast) (p : Plans) (fuel : Nat) (nm ty : String) (rest : List StructFieldDec)
    (m : Nat) (h : m < 2^32) (h0 : m ≠ 0) (h1 : m ≠ 1) (o : Nat) (s : List Byte) (l) :
    evalFields a p (fuel + 1) (.optional nm ty :: rest) ⟨o, be32 m ++ s, l⟩ = .err (.unknownOptionVariant m) l := by
  simp [evalFields, readU32_be32 m h, h0, h1]

/-- marker 0 is `None` and consumes exactly the marker (`fuel + 2`: this `evalFields` and that of the empty rest) -/
theorem C06_marker_none (a : Ast) (p : Plans) (fuel : Nat) (nm ty : String) (o : Nat) (s : List Byte) (l) :
    evalFields a p (fuel + 2) [.optional nm ty] ⟨o, be32 0 ++ s, l⟩ = .ok (.cons .none .nil) ⟨o + 4, s, l⟩ := by
  simp [evalFields, readU32_be32 0 (by decide)]

/-- an enum word matching no declared member is `UnknownVariant(word as i32)` -/
theorem C06_enum_strict (a : Ast) (p : Plans) (fuel : Nat) (name : String) (i : Impl) (arms : List (VariantValue × String))
    (hi : p.findImpl name = some i) (hb : i.body = .enum arms) (n : Nat) (hn : n < 2^32) (o : Nat) (s : List Byte) (l)
    (hnone : selectEnum a (.i32 (toSigned 32 n)) arms = none) :
    evalImpl a p (fuel + 1) name ⟨o, be32 n ++ s, l⟩ = .err (.unknownVariant (toSigned 32 n)) l := by
  simp only [evalImpl_enum hi hb, readI32, Res.map, readU32_be32 n hn, Res.bind_ok, hnone]

/-- a union discriminant that matches no arm, with no default, is `UnknownVariant(d as i32)` -/
theorem C06_union_unknown_rejected (a : Ast) (p : Plans) (fuel : Nat) (name : String) (i : Impl) (u : UnionDec)
    (hi : p.findImpl name = some i) (hb : i.body = .union u) (ht : u.tail = .errUnknown)
    (c : Cur) (d : Val) (c1 : Cur) (hd : evalBasic a p fuel u.disc c = .ok d c1)
    (hnone : selectArm a d u.arms = none) :
    evalImpl a p (fuel + 1) name c = .err (.unknownVariant (asI32 a d)) c1.log := by
  simp only [evalImpl_union hi hb, hd, Res.bind_ok, evalArms, hnone, ht]

/-- strings: the payload is returned iff it is well-formed UTF-8, otherwise `NonUtf8String` -/
theorem C06_utf8 (max : Option Nat) (bs s : List Byte) (hl : bs.length < 2^32)
    (hm : overLimit max bs.length = false) (o : Nat) (l) :
    readString max ⟨o, be32 bs.length ++ (bs ++ zeros (padLen bs.length) ++ s), l⟩ =
      if utf8Valid bs then .ok (.str bs) ⟨o + 4 + (bs.length + padLen bs.length), s, l ++ [.str bs.length]⟩
      else .err .nonUtf8String (l ++ [.str bs.length]) := by
  rw [readString_be32 max bs.length hl]
  have hlen : ¬ (bs ++ zeros (padLen bs.length) ++ s).length < bs.length + padLen bs.length := by simp
  simp only [hm, Bool.false_eq_true, if_false, hlen]
  simp [List.append_assoc]

/-- **C06 (each declared discriminant selects its own arm).**  `MatchSelects` for every supported specification: the emitted
    match sends every discriminant word `d` its switch type admits to the arm `selectDeclared` assigns: a label denoting `d`
    (numeral, constant, enum member, TRUE/FALSE), else the default, else the tail `Err(UnknownVariant)`. -/
theorem C06_match_selects (a : Ast) (m : Module) (hs : Supported a = true) (hg : generateModule a = .ok m) :
    MatchSelects a m.plans :=
  match_selects_of_supported hs hg

/-- through the whole decoder: a discriminant no arm declares is `Err(UnknownVariant(d as i32))`, whatever follows it
    (`fuel + 3`: `evalImpl`, the discriminant's `evalBasic`, and the `evalImpl` under it when that is an enum) -/
theorem C06_undeclared_rejected (a : Ast) (m : Module) (hs : Supported a = true) (hg : generateModule a = .ok m)
    (n : String) (u : Union) (hb : bget n a.types = some (.union u))
    (d : Nat) (hd : discOk a (discKind a u.switch.varType) d = true) (hno : selectDeclared a u d = .noArm)
    (fuel off : Nat) (s : List Byte) (l : List Ev) :
    ∃ l', evalImpl a m.plans (fuel + 3) n ⟨off, be32 d ++ s, l⟩ = .err (.unknownVariant (asI32 a (scrutOf a u d))) l' := by
  have F := sfacts_of_supported hs
  obtain ⟨i, hfi, hemit⟩ := find_impl_of_types hg F.keys hb
  obtain ⟨disc, _, hbody⟩ := emitImpl_union_ok (F.typeOk n _ hb) hemit
  have hms := match_selects_of_supported hs hg
  obtain ⟨l', e⟩ := hms.disc hb hfi hbody hd fuel off s l
  exact ⟨l', by rw [evalImpl_union hfi hbody, e, Res.bind_ok, evalArms_noArm hms hb hfi hbody hd hno]⟩

/-- **C06 (only declared discriminants are ever accepted).**  The statement of `C05_accepted_is_well_typed`; what it says of
    discriminants is inside `hasTypeNamed` (Fx/Xdr): in every enum a declared member value (`enumHasValue`), in every union a
    discriminant `discOk` admits with the payload of the arm `selectDeclared` assigns, optional markers and booleans 0/1,
    strings with `utf8Valid`. -/
theorem C06_accepted_is_declared (a : Ast) (m : Module) (hs : Supported a = true) (hg : generateModule a = .ok m)
    (n : String) (hn : declared a n = true) (fuel : Nat) (c : Cur) (v : Val) (c' : Cur)
    (h : evalImpl a m.plans fuel n c = .ok v c') :
    ∃ x, hasTypeNamed a n x = true ∧ v = reprNamed a n c.off x ∧ c'.off = c.off + x.enc.length :=
  decode_sound hs hg n hn fuel c v c' h

/-- in particular an accepted enum word is a declared value of that enum -/
theorem C06_accepted_enum_is_member (a : Ast) (m : Module) (hs : Supported a = true) (hg : generateModule a = .ok m)
    (n : String) (e : Enum) (hb : bget n a.types = some (.enum e)) (fuel : Nat) (c : Cur) (v : Val) (c' : Cur)
    (h : evalImpl a m.plans fuel n c = .ok v c') :
    ∃ w mem, enumHasValue a e w = true ∧ enumMemberName a e w = some mem ∧ v = .cenum n mem := by
  obtain ⟨x, hx, rfl, _⟩ := C06_accepted_is_declared a m hs hg n (declared_iff.mpr ⟨_, hb⟩) fuel c v c' h
  obtain ⟨w, rfl, hw⟩ := (hasTypeNamed_enum hb).mp hx
  obtain ⟨mem, hm⟩ := enumMemberName_some hw
  exact ⟨w, mem, hw, hm, by rw [reprNamed_enum hb, hm]⟩

end Fx.C06
