/-
  C12 — the AST and its indexes reflect exactly what the specification declares:
  the index layer, the constructors on every token tree, and both from the text.
-/
import Fx.Lemmas.ParseSpec
import Fx.Lemmas.ParseNorm
import Fx.Lemmas.ParseAst
import Fx.Lemmas.PegLimit
import Fx.Lemmas.IndexFacts
namespace Fx.C12
open Fx

/-- `TypeIndex`: a name retrieves the declaration inserted last under it -/
theorem C12_type_index_get (entries : List (String × AstType)) (k : String) (v : AstType) (m : List (String × AstType))
    (hlast : ∀ kv ∈ entries, kv.1 ≠ k) :
    bget k ((entries).foldl (fun m kv => bins kv.1 kv.2 m) (bins k v m)) = some v :=
  (bget_binsAll_of_ne hlast).trans (bget_bins_self k v m)

/-- nothing is invented: a name the index returns was inserted -/
theorem C12_type_index_sound (entries : List (String × AstType)) (m : List (String × AstType)) (k : String) (v : AstType)
    (h : bget k (entries.foldl (fun m kv => bins kv.1 kv.2 m) m) = some v) :
    (k, v) ∈ entries ∨ bget k m = some v :=
  of_bget_binsAll h

/-- the labels an arm node of a union contributes: its own case value, and the word `default` for the default arm -/
def armLabels : Node → List String
  | .unionCase (.type t :: _) => [t.asStr]
  | .unionCase _ => []
  | .unionDefault (.type t :: _) => ["default", t.asStr]
  | .unionDefault _ => ["default"]
  | _ => []

def isDefaultArm : Node → Bool
  | .unionDefault _ => true
  | _ => false

/-- every label the accumulator of `Union::new` holds: data arms, void arms, the default arm, and the labels still waiting for a body -/
def accAll (acc : UAcc) : List String :=
  (acc.cases.map (·.caseValues)).flatten ++ acc.voidCases ++
    (match acc.default with | some d => d.caseValues | none => []) ++ acc.pending

def headLabel : List Node → List String
  | .type t :: _ => [t.asStr]
  | _ => []

def stmtLabels : CaseStmt → List String
  | .fallthrough vs => vs
  | .defined c => c.caseValues
  | .void vs => vs

theorem unionCase_values {cv : List String} {ns : List Node} {c : UnionCase} (h : UnionCase.new cv ns = .ok c) : c.caseValues = cv := by
  unfold UnionCase.new at h
  split at h
  · cases h; rfl
  · cases h

theorem defined_labels {cv : List String} {ns : List Node} {stmt : CaseStmt}
    (h : ((UnionCase.new cv ns).bind fun c => .ok (.defined c)) = .ok stmt) : stmtLabels stmt = cv := by
  obtain ⟨c, hc, h⟩ := Out.bind_eq_ok h
  cases h
  exact unionCase_values hc

/-- the labels of the statement `CaseStmt::parse` builds: the incoming ones, then the arm's own head label -/
theorem caseStmt_labels {cv : List String} {nodes : List Node} {stmt : CaseStmt} (h : CaseStmt.parse cv nodes = .ok stmt) :
    stmtLabels stmt = cv ++ headLabel nodes := by
  unfold CaseStmt.parse at h
  split at h
  · split at h
    · cases h
      rfl
    · exact defined_labels h
    · cases h
      rfl
    · cases h
  · cases h
    exact (List.append_nil _).symm
  · exact (defined_labels h).trans (List.append_nil _).symm
  · cases h
  · cases h

theorem armLabels_case (nodes : List Node) : armLabels (.unionCase nodes) = headLabel nodes := by
  cases nodes with
  | nil => rfl
  | cons n rest => cases n <;> rfl

theorem armLabels_default (nodes : List Node) : armLabels (.unionDefault nodes) = "default" :: headLabel nodes := by
  cases nodes with
  | nil => rfl
  | cons n rest => cases n <;> rfl

theorem count_accAll (acc : UAcc) (l : String) : (accAll acc).count l =
    (acc.cases.map (·.caseValues)).flatten.count l + acc.voidCases.count l +
      (match acc.default with | some d => d.caseValues | none => []).count l + acc.pending.count l := by
  simp only [accAll, List.count_append]

/-- one arm: every label occurs in the accumulator as often as before plus its occurrences in that arm — unless a second
    `default` arm overwrites the first (the one way the loop can lose labels) -/
theorem union_step_conserves (acc acc' : UAcc) (v : Node) (h : Union.step acc v = .ok acc')
    (hdef : isDefaultArm v = true → acc.default = none) (l : String) :
    (accAll acc').count l = (accAll acc).count l + (armLabels v).count l := by
  unfold Union.step at h
  split at h
  · obtain ⟨stmt, hs, h⟩ := Out.bind_eq_ok h
    have hl := caseStmt_labels hs
    rw [armLabels_case]
    -- `defined c` appends `c` to `cases`, `void vs` appends `vs` to `voidCases`, both empty `pending`; `fallthrough vs`
    -- replaces `pending`: the statement's labels are `pending ++` the arm's
    cases stmt <;> cases h <;>
      simp only [stmtLabels] at hl <;>
      simp only [count_accAll, hl, List.map_append, List.flatten_append, List.map_cons, List.map_nil, List.flatten_cons,
        List.flatten_nil, List.append_nil, List.count_append, List.count_nil, Nat.add_zero] <;>
      ac_rfl
  · obtain ⟨stmt, hs, h⟩ := Out.bind_eq_ok h
    have hl := caseStmt_labels hs
    have hnone := hdef rfl
    rw [armLabels_default]
    -- as above, `defined c` filling the empty `default` slot
    cases stmt <;> cases h <;>
      simp only [stmtLabels] at hl <;>
      simp only [count_accAll, hnone, hl, List.count_append, List.count_cons, List.count_nil, Nat.add_zero, Nat.zero_add] <;>
      ac_rfl
  · cases h

theorem union_step_default {acc acc' : UAcc} {v : Node} (h : Union.step acc v = .ok acc') (hv : isDefaultArm v = false) :
    acc'.default = acc.default := by
  unfold Union.step at h
  split at h
  · obtain ⟨stmt, _, h⟩ := Out.bind_eq_ok h
    cases stmt <;> cases h <;> rfl
  · cases hv
  · cases h

/-- `union_step_conserves` over the whole body.  The hypothesis is the induction invariant: while no `default` arm is stored
    at most one may follow, once one is stored none may. -/
theorem union_loop_conserves : ∀ (vs : List Node) (acc acc' : UAcc), Union.loop acc vs = .ok acc' →
    (acc.default = none ∧ (vs.filter isDefaultArm).length ≤ 1 ∨ (vs.filter isDefaultArm).length = 0) →
    ∀ l, (accAll acc').count l = (accAll acc).count l + ((vs.map armLabels).flatten).count l := by
  intro vs
  induction vs with
  | nil =>
    intro acc acc' h _ l
    cases h
    simp
  | cons v rest ih =>
    intro acc acc' h hd l
    obtain ⟨acc1, hs, h⟩ := Out.bind_eq_ok h
    rw [List.filter_cons] at hd
    cases hv : isDefaultArm v
    · -- not a default arm: the default slot is untouched
      simp only [hv, Bool.false_eq_true, if_false] at hd
      have hstep := union_step_conserves acc acc1 v hs (fun h => absurd (hv ▸ h) (by decide)) l
      have hrest := ih acc1 acc' h (by rw [union_step_default hs hv]; exact hd) l
      simp only [List.map_cons, List.flatten_cons, List.count_append]
      omega
    · -- the one default arm: no other may follow
      simp only [hv, if_true, List.length_cons] at hd
      obtain ⟨hnone, hlen⟩ := hd.resolve_right (Nat.succ_ne_zero _)
      have hstep := union_step_conserves acc acc1 v hs (fun _ => hnone) l
      have hrest := ih acc1 acc' h (.inr (by omega)) l
      simp only [List.map_cons, List.flatten_cons, List.count_append]
      omega

/-- `Union::new`: the name, the discriminant's name, and no label invented or multiplied: each label occurs in the `Union` at
    most as often as in the source.  Only `≤`: the labels still pending when the body ends (a trailing `case L:` without a body)
    are not part of the `Union`; with them it is an equality (`union_loop_conserves`). -/
theorem C12_union_faithful (n ty var : Node) (rest : List Node) (u : Union) (h : Union.new (n :: ty :: var :: rest) = .ok u)
    (hd : (rest.filter isDefaultArm).length ≤ 1) :
    n.identStr = .ok u.name ∧ var.identStr = .ok u.switch.varName ∧
    (∀ l, ((u.cases.map (·.caseValues)).flatten ++ u.voidCases ++ (match u.default with | some d => d.caseValues | none => [])).count l
        ≤ ((rest.map armLabels).flatten).count l) := by
  obtain ⟨name, h1, h⟩ := Out.bind_eq_ok h
  obtain ⟨vn, h2, h⟩ := Out.bind_eq_ok h
  obtain ⟨ts, _, h⟩ := Out.bind_eq_ok h
  obtain ⟨acc, h4, h⟩ := Out.bind_eq_ok h
  cases h
  refine ⟨h1, h2, fun l => ?_⟩
  have := union_loop_conserves rest {} acc h4 (.inl ⟨rfl, hd⟩) l
  rw [count_accAll, count_accAll] at this
  simp only [List.count_append]
  simp at this
  -- `this` counts `acc.pending` on the left as well; `Union::new` discards it, hence `≤`
  omega

/-- `Struct::new`: the name is the first token; one field per field node, in source order, each `StructField::new` of its node -/
theorem C12_struct_faithful (n : Node) (rest : List Node) (s : Struct) (h : Struct.new (n :: rest) = .ok s) :
    n.identStr = .ok s.name ∧ s.fields.length = rest.length ∧
    ∀ (i : Nat) (hi : i < rest.length) (hs : i < s.fields.length), StructField.new rest[i] = .ok s.fields[i] := by
  obtain ⟨name, h1, h⟩ := Out.bind_eq_ok h
  obtain ⟨fs, h2, h⟩ := Out.bind_eq_ok h
  cases h
  exact ⟨h1, mapOut_eq_ok h2⟩

theorem C12_struct_field_shapes (rhs : BasicType) (lhs size : String) :
    StructField.new (.structDataField [.type rhs, .type (.ident lhs)]) = .ok ⟨lhs, .none rhs, false⟩ ∧
    StructField.new (.structDataField [.type rhs, .type (.ident lhs), .arrayVariable size]) = .ok ⟨lhs, .variable rhs (optSize size), false⟩ ∧
    StructField.new (.structDataField [.type rhs, .type (.ident lhs), .arrayFixed size]) = .ok ⟨lhs, .fixed rhs (ArraySize.ofStr size), false⟩ ∧
    StructField.new (.structDataField [.type rhs, .option [.type (.ident lhs)]]) = .ok ⟨lhs, .none rhs, true⟩ :=
  ⟨rfl, rfl, rfl, rfl⟩

/-- `Enum::new`: one variant per member node, in source order, each `Variant::new` of its node -/
theorem C12_enum_faithful (n : Node) (rest : List Node) (e : Enum) (h : Enum.new (n :: rest) = .ok e) :
    n.identStr = .ok e.name ∧ e.variants.length = rest.length ∧
    ∀ (i : Nat) (hi : i < rest.length) (hs : i < e.variants.length), Variant.new rest[i] = .ok e.variants[i] := by
  obtain ⟨name, h1, h⟩ := Out.bind_eq_ok h
  obtain ⟨vs, h2, h⟩ := Out.bind_eq_ok h
  cases h
  exact ⟨h1, mapOut_eq_ok h2⟩

/-- member values: the digits of a hex literal are read in base 16 (not as the decimal number they spell) -/
example : hexStrVal ['1', '0'] = some 16 ∧ hexStrVal ['8', '0', '0'] = some 2048 ∧ hexStrVal ['f', 'F'] = some 255 ∧
    hexStrVal ['g'] = none := by decide

/-- `generalizing := false`: otherwise the `match` takes `h` along as a second discriminant and is no longer the predicate
    `C12_root_items` filters by -/
theorem itemOf_isSome {n : Node} {o : Option Item} (h : itemOf n = .ok o) :
    o.isSome = (match (generalizing := false) n with
      | .constant _ | .typedef _ | .enum _ | .struct _ | .union _ => true
      | _ => false) := by
  cases n with
  | constant l =>
    match l, h with
    | [a, b], h =>
      obtain ⟨_, _, h⟩ := Out.bind_eq_ok h
      obtain ⟨_, _, h⟩ := Out.bind_eq_ok h
      cases h
      rfl
    | [], h | [_], h | _ :: _ :: _ :: _, h => cases h
  | _ =>
    cases h
    rfl

/-- the root: as many items as there are declaration nodes (`constant`, `typedef`, `enum`, `struct`, `union`) -/
theorem C12_root_items (ns : List Node) (items : List Item) (h : itemsOf ns = .ok items) :
    items.length = (ns.filter fun n => match n with
      | .constant _ | .typedef _ | .enum _ | .struct _ | .union _ => true
      | _ => false).length := by
  induction ns generalizing items with
  | nil =>
    cases h
    rfl
  | cons n rest ih =>
    obtain ⟨o, h1, h⟩ := Out.bind_eq_ok h
    obtain ⟨is, h2, h⟩ := Out.bind_eq_ok h
    cases h
    rw [List.filter_cons, ← itemOf_isSome h1]
    cases o <;> simp [ih is h2]

/-! `Parse.Spec` (Lemmas/ParseSyntax): the concrete syntax of `src/xdr.pest` with a layout at every gap between two tokens.
`Spec.ok`: identifiers, numbers, two names separated by something, the white space after a built-in word inside its token, a
line comment ended by a line end, no `*/` inside a block comment. -/

/-- **the parser accepts every well-formed text**, with the token tree its declarations determine (`Spec.root`), at every
    sufficient recursion budget -/
theorem C12_parse_complete (s : Parse.Spec) (h : s.ok = true) :
    ∃ F, ∀ f, F ≤ f → Peg.evalRule Grammar.xdr f false "item" ⟨0, s.text⟩ = .ok ⟨s.text.length, []⟩ [s.root] := by
  obtain ⟨F, hF⟩ := Parse.spec_parses s h
  exact ⟨F, fun f hf => Peg.evalRule_lift _ hF hf⟩

/-- the front end on a well-formed text: the constructors on the token tree of its declarations -/
theorem newLim_spec (s : Parse.Spec) (h : s.ok = true) :
    Ast.newLim (String.ofList s.text) = frontOf (Ast.ofPairs [s.root]) :=
  Ast.newLim_of_ROk (Parse.spec_parses s h)

/-- **the AST is a function of the declarations alone**: what the constructors make of the *layout-free* token tree
    `s.norm.root`.  Stated of the budget-free `Ast.newLim` (Lemmas/PegLimit); the executable `Ast.new`, which T3 runs against
    the real `Ast::new`, equals it whenever it answers. -/
theorem C12_ast_from_declarations_total (s : Parse.Spec) (h : s.ok = true) :
    Ast.newLim (String.ofList s.text) = frontOf (Ast.ofPairs [s.norm.root]) := by
  rw [newLim_spec s h, Ast.ofPairs, Ast.ofPairs, Parse.walk_sim _ _ (Parse.spec_sim s h)]

/-- **C12 from the text, in closed form.**  `Decl.node`: the node list the *declaration itself* determines (a built-in type is
    the one its spelling denotes whatever white space it contains; bounds as written).  No token, text or layout occurs on
    the right-hand side.  With the constructor theorems above this is C12 end to end, for the model tied by T3.
    (`Ast.newLim` as above.) -/
theorem C12_ast_closed_form_total (s : Parse.Spec) (h : s.ok = true) :
    Ast.newLim (String.ofList s.text) =
      frontOf ((mapOut (fun dl : Parse.Decl × Parse.Layout => dl.1.node) s.decls).bind fun ns =>
        (itemsOf (ns ++ [.eof])).bind Ast.ofItems) := by
  rw [newLim_spec s h, Ast.ofPairs, Parse.walk_root s h]
  cases mapOut (fun dl : Parse.Decl × Parse.Layout => dl.1.node) s.decls <;> rfl

/-- `C12_ast_from_declarations_total` for the executable `Ast.new`: that, or the model's budget for this text length is
    exhausted (which the T3 tie would show) -/
theorem C12_ast_from_declarations (s : Parse.Spec) (h : s.ok = true) :
    Ast.new (String.ofList s.text) = .outOfFuel ∨ Ast.new (String.ofList s.text) = frontOf (Ast.ofPairs [s.norm.root]) :=
  (Ast.new_cases _).imp id (·.trans (C12_ast_from_declarations_total s h))

/-- `C12_ast_closed_form_total` for the executable `Ast.new`: that, or the budget is exhausted -/
theorem C12_ast_closed_form (s : Parse.Spec) (h : s.ok = true) :
    Ast.new (String.ofList s.text) = .outOfFuel ∨
    Ast.new (String.ofList s.text) =
      frontOf ((mapOut (fun dl : Parse.Decl × Parse.Layout => dl.1.node) s.decls).bind fun ns =>
        (itemsOf (ns ++ [.eof])).bind Ast.ofItems) :=
  (Ast.new_cases _).imp id (·.trans (C12_ast_closed_form_total s h))

/-- the executable front end and the budget-free one: equal wherever the executable one answers -/
theorem C12_executable_front_end_agrees (txt : String) (h : Ast.new txt ≠ .outOfFuel) : Ast.new txt = Ast.newLim txt :=
  Ast.new_eq_newLim txt h

/-- **C12 (the type index is complete and exact).**  With type names declared once: every declaration is in the index under its
    own name, everything in the index is such a declaration, and the index is strictly sorted. -/
theorem C12_type_index_exact (items : List Item) (hd : (items.filterMap typeEntry).Pairwise (fun x y => x.1 ≠ y.1)) :
    (∀ kv ∈ items.filterMap typeEntry, bget kv.1 (TypeIndex.new items) = some kv.2) ∧
    (∀ kv ∈ TypeIndex.new items, ∃ item ∈ items, typeEntry item = some kv) ∧
    SortedK (TypeIndex.new items) :=
  ⟨fun _ h => typeIndex_complete hd h, fun _ h => typeIndex_mem h, typeIndex_sorted items⟩

/-- **C12 (the constant index is exact).**  When `ConstantIndex::new` does not panic it holds exactly the declared constants and
    enum members, each under its own name, strictly sorted. -/
theorem C12_constant_index_exact (items : List Item) (cs : List (String × ConstantType)) (h : ConstantIndex.new items = .ok cs) :
    SortedK cs ∧ (∀ x, x ∈ cs ↔ x ∈ constEntries items) ∧ (∀ x ∈ constEntries items, bget x.1 cs = some x.2) :=
  constIndex_spec h

/-- the part of `Supported` that is about the *content* of the specification: which constructs it uses, how things are named -/
def SupportedContent (a : Ast) : Bool :=
  a.types.all (fun kv => nameSafe kv.1 && typeOk a kv.2) && constNamesOk a && noGuardConst a

/-- **`Supported` is a condition on the specification, not on the index machinery**: for a front-end `Ast` with type names declared
    once (`hd`) its index-shape conjuncts (keys, order, `enumConstsOk`, `constsWellFormed`) hold by construction (Lemmas/IndexFacts). -/
theorem C12_supported_iff_content (items : List Item) (a : Ast) (ha : Ast.ofItems items = .ok a)
    (hd : (items.filterMap typeEntry).Pairwise (fun x y => x.1 ≠ y.1)) :
    Supported a = SupportedContent a := by
  obtain ⟨hk, hs, he, hw⟩ := index_facts_of_front_end items a ha hd
  rw [Bool.eq_iff_iff]
  simp only [Supported, SupportedContent, keysOk, hs, he, hw, Bool.and_true, Bool.and_eq_true, List.all_eq_true, beq_iff_eq]
  constructor
  · rintro ⟨⟨⟨h1, h2⟩, h3⟩, h4⟩
    exact ⟨⟨fun kv hkv => ⟨(h1 kv hkv).2, h2 kv hkv⟩, h3⟩, h4⟩
  · rintro ⟨⟨h1, h3⟩, h4⟩
    exact ⟨⟨⟨fun kv hkv => ⟨hk kv hkv, (h1 kv hkv).1⟩, fun kv hkv => (h1 kv hkv).2⟩, h3⟩, h4⟩

section example_closed_form
open Parse

private def sp' : Layout := ⟨[' '], []⟩

def exS : Spec := ⟨nl, [
  (.const ⟨sp', ['A'], sp', sp', ['1'], nl⟩, sp'),
  (.struct ⟨sp', ['s'], sp', sp',
     [(⟨.prim (.uint [' ', '\t']) [' '], nl, none, ['x'], nl, some (.var nl (some (.name ['A'], nl)), nl)⟩, sp'),
      (⟨.prim .opaque [' '], nl, none, ['o'], nl, some (.var nl none, nl)⟩, sp')], nl⟩, nl)]⟩

example : exS.ok = true := by decide
example : String.ofList exS.text = "const A = 1; struct s { unsigned \tint x<A>; opaque o<>; };" := rfl

/-- the right-hand side of `C12_ast_closed_form` on it: exactly the declared constant and struct -/
example : ((mapOut (fun dl : Decl × Layout => dl.1.node) exS.decls).bind fun ns => (itemsOf (ns ++ [.eof])).bind Ast.ofItems) =
    .ok { constants := [("A", .constValue "1")], generics := ["s"],
          types := [("s", .struct ⟨"s", [⟨"x", .variable .u32 (some (.constant "A")), false⟩,
                                           ⟨"o", .variable .opaque none, false⟩]⟩)] } := by rfl
end example_closed_form

end Fx.C12
