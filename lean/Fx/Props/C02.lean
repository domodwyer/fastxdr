/-
  C02 — wire_size() equals the encoded length of the value.  That headline, for supported specifications and at offset 0, is
  `C01_wire_size_supported` (Props/C01); here: what a decode CONSUMES is `wire_size()` of what it returns, for all byte strings.
-/
import Fx.Lemmas.Enc
import Fx.Lemmas.Consumed
import Fx.Lemmas.EmitPlans
namespace Fx.C02
open Fx

/-- RFC 4506 §3: every encoding is a multiple of four bytes -/
theorem C02_enc_aligned (x : XVal) : x.enc.length % 4 = 0 := XVal.enc_len_mod4 x

/-- the blanket `WireSize` impls on decoded values: `Vec`, `[T; n]`, `Option<Box<T>>`, `String`, `Bytes` -/
theorem C02_ws_blanket (p : Plans) (xs : Vals) (v : Val) (bs : List Byte) (o : Nat) :
    wsVal p (.vec xs) = 4 + wsSum p xs + padLen (wsSum p xs) ∧
    wsVal p (.arr xs) = wsSum p xs + padLen (wsSum p xs) ∧
    wsVal p .none = 4 ∧ wsVal p (.some v) = 4 + wsVal p v ∧
    wsVal p (.str bs) = 4 + bs.length + padLen bs.length ∧
    wsVal p (.bytes o bs) = bs.length := by
  simp [wsVal, wsString, wsBytes]

theorem C02_leaf_sizes (bs : List Byte) :
    (XVal.str bs).enc.length = 4 + bs.length + padLen bs.length ∧
    (XVal.varOpaque bs).enc.length = 4 + bs.length + padLen bs.length ∧
    (XVal.fixedOpaque bs).enc.length = bs.length + padLen bs.length := by
  simp [XVal.enc]; omega

/-- **C02: a decode consumes exactly the `wire_size()` of what it returns — on ALL byte strings, valid or not.**
    `Plans.SizeExact'` is evaluated by the driver for every compiled specification; it fails at the K1 sites (one instance:
    `C02_defect_bare_opaque`). -/
theorem C02_consumed_all (a : Ast) (p : Plans) (hp : p.SizeExact' = true) (fuel : Nat) (name : String)
    (c : Cur) (v : Val) (c' : Cur) (h : evalImpl a p fuel name c = .ok v c') :
    wsVal p v ≤ c.remaining ∧ c'.off = c.off + wsVal p v ∧ c'.data = c.data.drop (wsVal p v) ∧ wsVal p v % 4 = 0 :=
  let ⟨hle, hoff, hdata, hmod⟩ := (eval_consumed a p hp fuel).impl name c v c' h
  ⟨hle, hoff, hdata, hmod⟩

/-- **Specification level**: `C02_consumed_all` for every `Ast` in the supported subset for which generation succeeds -/
theorem C02_consumed_all_supported (a : Ast) (m : Module) (hs : Supported a = true) (hg : generateModule a = .ok m)
    (fuel : Nat) (name : String) (c : Cur) (v : Val) (c' : Cur) (h : evalImpl a m.plans fuel name c = .ok v c') :
    wsVal m.plans v ≤ c.remaining ∧ c'.off = c.off + wsVal m.plans v ∧ c'.data = c.data.drop (wsVal m.plans v) ∧
      wsVal m.plans v % 4 = 0 :=
  C02_consumed_all a m.plans (supported_plans hs hg).2 fuel name c v c' h

/-- the loop of `read_variable_array` steps a clone by `wire_size()` of each element; with exact size impls that is where the
    element's decoder stopped (`AdvBy.stepped_eq`) -/
theorem C02_array_stepping_exact (a : Ast) (p : Plans) (hp : p.SizeExact' = true) (fuel : Nat) (ty : String) (m : Option Nat)
    (c : Cur) (v : Val) (c' : Cur) (h : readVariableArray (evalImpl a p fuel ty) (wsVal p) m c = .ok v c') :
    c'.off = c.off + wsVal p v ∧ c'.data = c.data.drop (wsVal p v) := by
  have := readVariableArray_advBy p ((eval_consumed a p hp fuel).impl ty) h
  exact ⟨this.off, this.data⟩

/-- a K1 site fails `SizeExact` (hence `SizeExact'`): a struct with a bracket-less opaque field, one instance by evaluation -/
theorem C02_defect_bare_opaque :
    (Plans.mk [⟨"s", true, .struct [.plain "o" (.one .opaque)]⟩] [⟨"s", true, .struct [⟨"o", true, false⟩]⟩]).SizeExact = false := by
  decide

/-- at that K1 site the size impl is short by the 4-byte length prefix: `opaque o;` holding 1 byte is 8 bytes on the wire, 4 reported -/
theorem C02_defect_bare_opaque_witness :
    wsVal (Plans.mk [] [⟨"s", true, .struct [⟨"o", true, false⟩]⟩]) (.struct "s" ["o"] (.cons (.bytes 4 [7]) .nil)) = 4 ∧
    (XVal.struct (.cons (.varOpaque [7]) .nil)).enc.length = 8 := by
  decide

/-- non-vacuity of `SizeExact'`: a struct with a counted opaque and a word -/
example : (Plans.mk [⟨"s", true, .struct [.plain "o" (.varBytes none), .plain "n" (.one (.prim .u32))]⟩]
    [⟨"s", true, .struct [⟨"o", true, true⟩, ⟨"n", false, false⟩]⟩]).SizeExact' = true := by decide

end Fx.C02
