/-
  C11 — code generation is a pure function of the declarations.
  Determinism is definitional for the Lean functions; what the theorems add is that the *declaration set* determines the
  `Ast` the emitters see: the layout of the text does not matter, nor the order of the declarations (the three indexes
  are order-independent), on items and from the text.
-/
import Fx.Props.C13
import Fx.Lemmas.Membership
import Fx.Props.C12
namespace Fx.C11
open Fx

/-- `BTreeMap::insert` of two different keys commutes — on any list -/
theorem bins_comm {α} (k1 k2 : String) (v1 v2 : α) (hne : k1 ≠ k2) (l : List (String × α)) :
    bins k1 v1 (bins k2 v2 l) = bins k2 v2 (bins k1 v1 l) := by
  rcases Std.lt_trichotomy k1 k2 with h | h | h
  · exact bins_comm_of_lt h v1 v2 l
  · exact absurd h hne
  · exact (bins_comm_of_lt h v2 v1 l).symm

/-- the type index does not depend on the order of the declarations (distinct names: otherwise the last insert wins) -/
theorem C11_type_index_order_independent {items items' : List Item} (hp : items.Perm items')
    (hd : (items.filterMap typeEntry).Pairwise (fun a b => a.1 ≠ b.1)) :
    TypeIndex.new items = TypeIndex.new items' :=
  binsAll_perm (hp.filterMap typeEntry) hd []

/-- membership in the generic index does not depend on the order of the declarations (no hypothesis: duplicates, cycles) -/
theorem C11_generic_index_order_independent {items items' : List Item} (hp : items.Perm items') (n : String) :
    n ∈ GenericIndex.new items ↔ n ∈ GenericIndex.new items' :=
  C13.C13_order_independent (hp.filterMap gitemOf) n

/-- no hypothesis: with a name declared twice `ConstantIndex::new` panics in every order, with the same message -/
theorem constantIndex_perm {items items' : List Item} (hp : items.Perm items') :
    ConstantIndex.new items = ConstantIndex.new items' := by
  have hperm : (constEntries items).Perm (constEntries items') := by
    rw [constEntries_eq_flatMap, constEntries_eq_flatMap]
    exact hp.flatMap_right itemConstEntries
  -- an `Ok` for one order is the `Ok` for the other, both ways along the permutation: the mixed ok/dup cases close
  have key : ∀ {es es' : List (String × ConstantType)}, es.Perm es' → ∀ {cs}, constInsertAll es [] = .ok cs →
      constInsertAll es' [] = .ok cs := by
    intro es es' hp' cs h
    obtain ⟨rfl, hd, _⟩ := constInsertAll_ok h
    rw [constInsertAll_eq_binsAll ((hp'.pairwise_iff Ne.symm).mp hd) fun _ _ => rfl, binsAll_perm hp' hd]
  unfold ConstantIndex.new
  rcases constInsertAll_ok_or_dup (constEntries items) [] with h | h
  · rw [key hperm h]
    exact h
  · rcases constInsertAll_ok_or_dup (constEntries items') [] with h' | h'
    · rw [key hperm.symm h']
      exact h'.symm
    · rw [h, h']

/-- the constant index does not depend on the order of the declarations (`hd` is not used:
    a duplicate panics alike in every order, K6.d) -/
theorem C11_constant_index_order_independent {items items' : List Item} (hp : items.Perm items')
    (hd : ((constEntries items).map (·.1)).Nodup) :
    ConstantIndex.new items = ConstantIndex.new items' :=
  constantIndex_perm hp

/-- **C11 (declaration order).**  The generic index is preserved only as a *set*; the emitters consult it through membership
    alone (`generateModule_membership_only`), so the real `HashSet`'s iteration order cannot show.  (Names declared once;
    duplicates are K6.d / rustc errors.) -/
theorem C11_generate_order_independent {items items' : List Item} (hp : items.Perm items')
    (hdT : (items.filterMap typeEntry).Pairwise (fun a b => a.1 ≠ b.1))
    (hdC : ((constEntries items).map (·.1)).Nodup)
    (a a' : Ast) (ha : Ast.ofItems items = .ok a) (ha' : Ast.ofItems items' = .ok a') :
    generateModule a = generateModule a' := by
  obtain ⟨cs, hc, rfl⟩ := Ast.ofItems_eq_ok.mp ha
  obtain ⟨cs', hc', rfl⟩ := Ast.ofItems_eq_ok.mp ha'
  have e : Out.ok cs = Out.ok cs' := by
    rw [← hc, ← hc', constantIndex_perm hp]
  cases e
  rw [← C11_type_index_order_independent hp hdT]
  apply generateModule_membership_only
  intro n
  rw [Bool.eq_iff_iff]
  simpa using C11_generic_index_order_independent hp n

example : TypeIndex.new [.enum ⟨"b", []⟩, .enum ⟨"a", []⟩] = TypeIndex.new [.enum ⟨"a", []⟩, .enum ⟨"b", []⟩] := by decide

/-- **C11 (the one place where layout is consumed)**: the implicit skip that pest inserts between the parts of a sequence and
    between repetitions.  `hr`: what follows does not itself begin with layout. -/
theorem C11_skip_absorbs_layout (l : Parse.Layout) (p : Nat) (r : List Char) (hl : l.ok = true) (hr : Parse.NoLayoutStart r) :
    ∃ f ts, Peg.skip Grammar.xdr f ⟨p, l.text ++ r⟩ = .ok ⟨p + l.text.length, r⟩ ts :=
  Parse.skOk_layout l p r hl hr

/-- **C11 (layout).**  `s.norm = s'.norm`: the same tokens in the same order, any layouts at the gaps.  Same front-end result —
    AST, `Err` or panic — hence the same generated module.  Stated of the budget-free `Ast.newLim` (Lemmas/PegLimit), which
    is `Ast.new` wherever that answers. -/
theorem C11_layout_insensitive_total (s s' : Parse.Spec) (h : s.ok = true) (h' : s'.ok = true) (hn : s.norm = s'.norm) :
    Ast.newLim (String.ofList s.text) = Ast.newLim (String.ofList s'.text) := by
  rw [C12.C12_ast_from_declarations_total s h, C12.C12_ast_from_declarations_total s' h', hn]

/-- `C11_layout_insensitive_total` for the executable `Ast.new`: that, or the model's budget is exhausted on one of the texts -/
theorem C11_layout_insensitive (s s' : Parse.Spec) (h : s.ok = true) (h' : s'.ok = true) (hn : s.norm = s'.norm) :
    Ast.new (String.ofList s.text) = .outOfFuel ∨ Ast.new (String.ofList s'.text) = .outOfFuel ∨
    Ast.new (String.ofList s.text) = Ast.new (String.ofList s'.text) := by
  rcases Ast.new_cases (String.ofList s.text) with h1 | h1
  · exact .inl h1
  · rcases Ast.new_cases (String.ofList s'.text) with h2 | h2
    · exact .inr (.inl h2)
    · exact .inr (.inr (by rw [h1, h2, C11_layout_insensitive_total s s' h h' hn]))

/-- all results in order, or the first panic -/
def seqOut {β} : List (Out β) → Out (List β)
  | [] => .ok []
  | x :: xs => x.bind fun b => (seqOut xs).bind fun bs => .ok (b :: bs)

theorem mapOut_eq_seqOut {α β} (f : α → Out β) : ∀ (l : List α), mapOut f l = seqOut (l.map f)
  | [] => rfl
  | a :: as => by simp only [mapOut, List.map_cons, seqOut, mapOut_eq_seqOut f as]

theorem seqOut_cons_ok {β} {x : Out β} {xs : List (Out β)} {r : List β} (h : seqOut (x :: xs) = .ok r) :
    ∃ b bs, x = .ok b ∧ seqOut xs = .ok bs ∧ r = b :: bs := by
  obtain ⟨b, hb, h⟩ := Out.bind_eq_ok h
  obtain ⟨bs, hbs, h⟩ := Out.bind_eq_ok h
  exact ⟨b, bs, hb, hbs, (Out.ok.inj h).symm⟩

/-- only when every element succeeds: the first panic depends on the order -/
theorem seqOut_perm {β} {xs ys : List (Out β)} (hp : xs.Perm ys) :
    ∀ r, seqOut xs = .ok r → ∃ r', seqOut ys = .ok r' ∧ r.Perm r' := by
  induction hp with
  | nil => intro r h; exact ⟨r, h, List.Perm.refl _⟩
  | cons x _ ih =>
    intro r h
    obtain ⟨b, bs, rfl, hbs, rfl⟩ := seqOut_cons_ok h
    obtain ⟨bs', hbs', hp'⟩ := ih bs hbs
    exact ⟨b :: bs', by simp [seqOut, hbs'], List.Perm.cons _ hp'⟩
  | swap x y l =>
    intro r h
    obtain ⟨b, bs, rfl, hbs, rfl⟩ := seqOut_cons_ok h
    obtain ⟨c, cs, rfl, hcs, rfl⟩ := seqOut_cons_ok hbs
    exact ⟨c :: b :: cs, by simp [seqOut, hcs], List.Perm.swap _ _ _⟩
  | trans _ _ ih1 ih2 =>
    intro r h
    obtain ⟨r1, h1, p1⟩ := ih1 r h
    obtain ⟨r2, h2, p2⟩ := ih2 r1 h1
    exact ⟨r2, h2, p1.trans p2⟩

theorem itemsOf_eq_seqOut : ∀ (ns : List Node), itemsOf ns = (seqOut (ns.map itemOf)).bind fun os => .ok (os.filterMap id)
  | [] => rfl
  | n :: ns => by
    simp only [itemsOf, List.map_cons, seqOut, itemsOf_eq_seqOut ns, Out.bind_assoc, Out.bind_ok]
    congr 1
    funext o
    congr 1
    funext os
    cases o <;> rfl

theorem itemsOf_perm {ns ns' : List Node} (hp : ns.Perm ns') (items : List Item) (h : itemsOf ns = .ok items) :
    ∃ items', itemsOf ns' = .ok items' ∧ items.Perm items' := by
  rw [itemsOf_eq_seqOut] at h ⊢
  obtain ⟨os, hs, h⟩ := Out.bind_eq_ok h
  cases h
  obtain ⟨os', hos', hpo⟩ := seqOut_perm (hp.map itemOf) os hs
  exact ⟨os'.filterMap id, by rw [hos']; rfl, hpo.filterMap id⟩

/-- **C11 from the text**: the declarations permuted, any layouts, names declared once: `Ok` for one text is `Ok` for the
    other, with the same generated module.  (Budget-free `Ast.newLim`.) -/
theorem C11_text_order_independent (s s' : Parse.Spec) (h : s.ok = true) (h' : s'.ok = true)
    (hperm : (s.decls.map fun dl => dl.1.node).Perm (s'.decls.map fun dl => dl.1.node))
    (ns : List Node) (items : List Item) (a : Ast)
    (hns : mapOut (fun dl : Parse.Decl × Parse.Layout => dl.1.node) s.decls = .ok ns)
    (hitems : itemsOf (ns ++ [.eof]) = .ok items) (ha : Ast.ofItems items = .ok a)
    (hdT : (items.filterMap typeEntry).Pairwise (fun x y => x.1 ≠ y.1))
    (hdC : ((constEntries items).map (·.1)).Nodup) :
    Ast.newLim (String.ofList s.text) = .ok a ∧
    ∃ a', Ast.newLim (String.ofList s'.text) = .ok a' ∧ generateModule a' = generateModule a := by
  -- the closed form for both texts; the permutation passes through `mapOut`, `itemsOf` and `Ast.ofItems` in turn
  have e1 := C12.C12_ast_closed_form_total s h
  have e2 := C12.C12_ast_closed_form_total s' h'
  simp only [hns, Out.bind_ok, hitems, ha] at e1
  refine ⟨e1, ?_⟩
  rw [mapOut_eq_seqOut] at hns
  obtain ⟨ns', hns', hpn⟩ := seqOut_perm hperm ns hns
  obtain ⟨items', hitems', hpi⟩ := itemsOf_perm (hpn.append_right [Node.eof]) items hitems
  obtain ⟨cs, hc, _⟩ := Ast.ofItems_eq_ok.mp ha
  obtain ⟨a', ha'⟩ : ∃ a', Ast.ofItems items' = .ok a' :=
    ⟨_, Ast.ofItems_eq_ok.mpr ⟨cs, constantIndex_perm hpi ▸ hc, rfl⟩⟩
  rw [mapOut_eq_seqOut] at e2
  simp only [hns', Out.bind_ok, hitems', ha'] at e2
  exact ⟨a', e2, (C11_generate_order_independent hpi hdT hdC a a' ha ha').symm⟩

open Parse

private def sp : Layout := ⟨[' '], []⟩

def exA : Spec := ⟨nl, [
  (.const ⟨sp, ['A'], sp, sp, ['1'], nl⟩, ⟨['\n'], []⟩),
  (.struct ⟨sp, ['s'], sp, sp,
     [(⟨.prim (.uint [' ', ' ', ' ']) [' '], nl, none, ['x'], nl, some (.var nl (some (.num ['3'], nl)), nl)⟩,
       ⟨[' '], [(.long [' ', 'c', ' '], [' '])]⟩)], nl⟩, nl)]⟩

/-- the same declarations, laid out differently: comments before, between and inside, a line comment, tabs -/
def exB : Spec := ⟨⟨[], [(.short ['h', 'i'], ['\n'])]⟩, [
  (.const ⟨⟨['\t'], []⟩, ['A'], nl, ⟨[], [(.long ['*'], [])]⟩, ['1'], sp⟩, nl),
  (.struct ⟨⟨['\n', ' '], []⟩, ['s'], nl, ⟨['\r', '\n'], []⟩,
     [(⟨.prim (.uint ['\n']) ['\t'], ⟨[], [(.long [], [])]⟩, none, ['x'], sp, some (.var sp (some (.num ['3'], sp)), sp)⟩, nl)], sp⟩,
   ⟨['\n'], []⟩)]⟩

example : exA.ok = true ∧ exB.ok = true := by decide
example : String.ofList exA.text = "const A = 1;\nstruct s { unsigned   int x<3>; /* c */ };" := rfl
example : String.ofList exB.text = "//hi\nconst\tA=/***/1 ;struct\n s{\r\nunsigned\nint\t/**/x < 3 > ;} ;\n" := rfl
example : exA.norm = exB.norm := rfl
end Fx.C11
