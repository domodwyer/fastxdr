/-
  C09 — memory requested by a decode is bounded by the input, not by length fields.
-/
import Fx.Lemmas.LogBound
import Fx.Lemmas.Total
import Fx.Lemmas.Depth
import Fx.Lemmas.Linear
import Fx.Lemmas.Fuel
namespace Fx.C09
open Fx

/-- `read_variable_array` unfolded past the count word: the reservation in the log is
    `Vec::with_capacity(n.min(self.remaining()))`.  The second conjunct holds of any numbers: it is there to be read next to
    the event. -/
theorem C09_reserve_bounded (dec : Cur → Res Val) (ws : Val → Nat) (max : Option Nat) (n : Nat) (hn : n < 2^32)
    (o : Nat) (s : List Byte) (l) (hlim : overLimit max n = false) :
    readVariableArray dec ws max ⟨o, be32 n ++ s, l⟩ =
      (arrLoop dec ws n ⟨o + 4, s, l ++ [.vec (min n s.length)]⟩ 0 .nil).bind (fun (r : Vals × Nat) c3 =>
        if c3.remaining < padLen r.2 then .err .invalidLength c3.log
        else (advanceP (padLen r.2) c3).bind fun _ c4 => .ok (.vec r.1) c4) ∧
    min n s.length ≤ s.length := by
  refine ⟨?_, Nat.min_le_right _ _⟩
  simp [readVariableArray, readU32_be32 n hn, hlim, Cur.addLog]

/-- a successful `read_string` on a buffer that starts with the count word `n` logs exactly one copy, of `n` bytes, and they were there -/
theorem C09_string_copy (max : Option Nat) (n : Nat) (hn : n < 2^32) (o : Nat) (s : List Byte) (l) (v : Val) (c' : Cur)
    (h : readString max ⟨o, be32 n ++ s, l⟩ = .ok v c') : c'.log = l ++ [.str n] ∧ n ≤ s.length := by
  rw [readString_be32 max n hn] at h
  split at h
  · cases h
  · split at h
    · cases h
    · rename_i hlen
      have hle : n ≤ s.length := by omega
      split at h
      · cases h
        simp [Nat.min_eq_left hle, hle]
      · cases h

/-- **C09: every allocation request of a decode call is at most the bytes present in the input view**, for ALL byte strings,
    ALL plans, success or failure.  `Ev.weight`: `Vec` reservations in elements, string copies in bytes, 4 per `Box` by
    convention.  A count word reserves nothing. -/
theorem C09_requests_bounded (a : Ast) (p : Plans) (fuel : Nat) (name : String) (c : Cur) (l' : List Ev)
    (h : (evalImpl a p fuel name c).log? = some l') :
    ∃ new, l' = c.log ++ new ∧ ∀ e ∈ new, e.weight ≤ c.remaining :=
  ((eval_logs a p fuel).impl name).2 c l' h

/-- the bound of `C09_requests_bounded` (`LogB`) for the counted-array reader on its own, over ANY element decoder that obeys it -/
theorem C09_array_reader_bounded (dec : Cur → Res Val) (ws : Val → Nat) (hd : ∀ c, LogB c (dec c))
    (m : Option Nat) (c : Cur) : LogB c (readVariableArray dec ws m c) :=
  (readVariableArray_logs m hd).2 c

/-- the pre-repair reservation `Vec::with_capacity(n)` (finding F2) as an event: it ignores the bytes present -/
def reserve_old (n : Nat) (_remaining : Nat) : Ev := .vec n
/-- the weight of that one event for a count word of 2^32-1 on an empty rest; a statement about the event, not about a reader -/
theorem C09_defect_reserve_old : (reserve_old (2^32 - 1) 0).weight = 4294967295 := by decide

/-- **C09 (the total).**  For plans whose size impls are exact and whose array elements consume input (`Plans.elemsSure`: an
    element of zero encoded size has no bound on its count), success or failure: the events the call adds weigh in total at
    most `f` × (bytes present); the budget `f` bounds the nesting depth of decoder calls.  For `struct t { t kids<>; }` the
    depth grows with the input and the total is quadratic: finding K11, witnessed below. -/
theorem C09_total_bounded (a : Ast) (p : Plans) (hp : p.SizeExact' = true) (hs : p.elemsSure = true)
    (f : Nat) (name : String) (c : Cur) (l' : List Ev) (h : (evalImpl a p f name c).log? = some l') :
    ∃ new, l' = c.log ++ new ∧ wt new ≤ f * c.remaining :=
  ((eval_total a p hp hs f).impl name c).log_le h

/-- on success the charge is per byte *consumed* (so sibling arrays do not multiply it) -/
theorem C09_total_success (a : Ast) (p : Plans) (hp : p.SizeExact' = true) (hs : p.elemsSure = true)
    (f : Nat) (name : String) (c : Cur) (v : Val) (c' : Cur) (h : evalImpl a p f name c = .ok v c') :
    ∃ new, c'.log = c.log ++ new ∧ wt new ≤ f * (c.remaining - c'.remaining) := by
  obtain ⟨_, new, hl, hw⟩ := TotB.ok_iff.mp (h ▸ (eval_total a p hp hs f).impl name c)
  refine ⟨new, hl, ?_⟩
  rw [Nat.mul_sub]
  omega

/-- at any budget `F` at which the decoder answers, the answer is final and `C09_total_bounded` at `F` bounds what it requested -/
theorem total_at_budget (a : Ast) (p : Plans) (hp : p.SizeExact' = true) (hs : p.elemsSure = true) (name : String) (c : Cur)
    (F : Nat) (hno : evalImpl a p F name c ≠ .outOfFuel) :
    ∃ r, r ≠ .outOfFuel ∧ (∀ f, F ≤ f → evalImpl a p f name c = r) ∧
      ∀ l', r.log? = some l' → ∃ new, l' = c.log ++ new ∧ wt new ≤ F * c.remaining :=
  ⟨_, hno, fun f hf => evalImpl_fuel_mono a p name c _ f hf hno, C09_total_bounded a p hp hs F name c⟩

/-- **C09 without recursive types: the constant does not depend on the input.**  When no declaration can reach itself
    (`Plans.acyclic`), `p.depth name` (Lemmas/Depth, from the plans alone) is a sufficient budget on EVERY buffer, and the
    requests add up to at most `p.depth name × bytes present`. -/
theorem C09_total_acyclic (a : Ast) (p : Plans) (hp : p.SizeExact' = true) (hs : p.elemsSure = true) (hac : p.acyclic = true)
    (name : String) (c : Cur) :
    ∃ r, r ≠ .outOfFuel ∧ (∀ f, p.depth name ≤ f → evalImpl a p f name c = r) ∧
      ∀ l', r.log? = some l' → ∃ new, l' = c.log ++ new ∧ wt new ≤ p.depth name * c.remaining :=
  total_at_budget a p hp hs name c _ (depth_suffices a p hac _ name _ (Nat.le_refl _) c (Nat.le_refl _))

/-- non-vacuity: `struct in { opaque o<>; unsigned n; }; struct s { in xs<>; in *opt; in arr[2]; }` has no recursive type -/
example :
    let p : Plans := ⟨[⟨"in", true, .struct [.plain "o" (.varBytes none), .plain "n" (.one (.prim .u32))]⟩,
                       ⟨"s", true, .struct [.plain "xs" (.varArr "in" true none), .optional "opt" "in",
                                            .plain "arr" (.fixedArr 2 (.tryFrom "in"))]⟩], []⟩
    p.acyclic = true ∧ p.depth "in" = 5 ∧ p.depth "s" = 14 := by decide

/-- **C09, the general case in closed form: never worse than quadratic.**  For finite types (exact size impls, array elements
    that consume input) and EVERY buffer of `n` bytes the decoder answers, and what it requests adds up to at most
    `(n/4 + 1) · L · n`, `L = p.maxLocal 0` a constant of the specification.  Finding K11 reaches the quadratic term. -/
theorem C09_total_at_most_quadratic (a : Ast) (p : Plans) (hp : p.SizeExact' = true) (hs : p.elemsSure = true) (hfin : p.finite = true)
    (name : String) (c : Cur) :
    ∃ r, r ≠ .outOfFuel ∧ (∀ f, (c.remaining / 4 + 1) * p.maxLocal 0 ≤ f → evalImpl a p f name c = r) ∧
      ∀ l', r.log? = some l' → ∃ new, l' = c.log ++ new ∧ wt new ≤ (c.remaining / 4 + 1) * p.maxLocal 0 * c.remaining :=
  total_at_budget a p hp hs name c _ (budget_suffices a p hfin (c.remaining / 4) name _ (budget_linear p _) c (by omega))

/-- K11 in the model (a test, not the unbounded claim): the plans of `struct t { t kids<>; }`; on 16 and 32 bytes of `ff` they
    request 24 and 112 units (the two examples below: 2k(k-1) for 4k bytes) -/
def k11Plans : Plans :=
  ⟨[⟨"t", false, .struct [.plain "kids" (.varArr "t" false none)]⟩], [⟨"t", false, .struct [⟨"kids", false, false⟩]⟩]⟩

example : ((evalImpl ⟨[], [], []⟩ k11Plans 40 "t" ⟨0, List.replicate 16 255, []⟩).log?.map wt) = some 24 := by decide
example : ((evalImpl ⟨[], [], []⟩ k11Plans 40 "t" ⟨0, List.replicate 32 255, []⟩).log?.map wt) = some 112 := by decide
example : k11Plans.SizeExact' = true ∧ k11Plans.elemsSure = true ∧ k11Plans.acyclic = false := by decide

end Fx.C09
