/-
  C04 — decoders never panic, abort or overflow, whatever the bytes.
-/
import Fx.Lemmas.NoPanic
import Fx.Lemmas.EmitPlans
import Fx.Lemmas.Fuel
import Fx.Lemmas.Linear
namespace Fx.C04
open Fx

/-- **C04 (no panic, no abort)** on EVERY byte string, for every decoder of well-formed plans; `outOfFuel` is not excluded
    here.  `Plans.Ok` is decidable, evaluated by the driver for every compiled specification. -/
theorem C04_no_panic (a : Ast) (p : Plans) (hp : p.Ok = true) (name : String)
    (hn : (p.findImpl name).isSome = true) (fuel : Nat) (c : Cur) :
    (evalImpl a p fuel name c).isBad = false :=
  (eval_noBad a p hp fuel).impl name c hn

/-- both entry points (`TryFrom<Bytes>`, `TryFrom<&mut Bytes>`) at the budget `evalFuel` they run with: no panic, no abort.
    `outOfFuel` is not excluded (`isBad` does not count it, and nothing shows that `evalFuel` suffices) -/
theorem C04_no_panic_entry (a : Ast) (p : Plans) (hp : p.Ok = true) (name : String)
    (hn : (p.findImpl name).isSome = true) (c : Cur) :
    (decodeByValue a p name c).isBad = false ∧ (decodeRefMut a p name c).isBad = false :=
  ⟨C04_no_panic a p hp name hn _ c, C04_no_panic a p hp name hn _ c⟩

/-- **Specification level**: `C04_no_panic` for every supported `Ast` for which generation succeeds -/
theorem C04_no_panic_supported (a : Ast) (m : Module) (hs : Supported a = true) (hg : generateModule a = .ok m)
    (name : String) (hn : declared a name = true) (fuel : Nat) (c : Cur) :
    (evalImpl a m.plans fuel name c).isBad = false :=
  C04_no_panic a m.plans (supported_plans hs hg).1 name ((plansFor_of_supported hs hg).declared_has_impl name hn) fuel c

/-- every reader of the runtime is panic-free on every buffer (the lemmas the induction rests on) -/
theorem C04_readers (c : Cur) (n : Nat) (m : Option Nat) :
    (readU32 c).isBad = false ∧ (readU64 c).isBad = false ∧ (readI32 c).isBad = false ∧
    (readI64 c).isBad = false ∧ (readBool c).isBad = false ∧ (readBytes n c).isBad = false ∧
    (readVariableBytes m c).isBad = false ∧ (readString m c).isBad = false :=
  let r := readers_noBad
  ⟨r.u32 c, r.u64 c, r.i32 c, r.i64 c, r.bool c, r.bytes n c, r.vbytes m c, readString_noBad m c⟩

/-- the counted-array reader is panic-free for ANY element decoder that is (the trailing padding is checked before it is skipped) -/
theorem C04_array_reader (dec : Cur → Res Val) (ws : Val → Nat) (hd : ∀ c, (dec c).isBad = false)
    (m : Option Nat) (c : Cur) : (readVariableArray dec ws m c).isBad = false :=
  readVariableArray_noBad m hd c

/-- non-vacuity of `Plans.Ok`: a plan with a struct referring to itself through an optional and a counted array -/
example : (Plans.mk [⟨"s", false, .struct [.plain "a" (.one (.prim .u32)), .optional "n" "s", .plain "xs" (.varArr "s" false none)]⟩] []).Ok = true := by
  decide

/-- **C04 (stack depth).**  For finite types and EVERY buffer of `n` bytes, `p.budget (n / 4)` — computed from the plans alone
    (Lemmas/Linear) — is a budget from which on every decoder answers: the nesting of decoder calls never exceeds it.
    Whether the machine stack holds that many frames is finding K5. -/
theorem C04_depth_bounded_by_input (a : Ast) (p : Plans) (hfin : p.finite = true) (name : String) (c : Cur) :
    ∀ f, p.budget (c.remaining / 4) ≤ f → evalImpl a p f name c ≠ .outOfFuel :=
  fun f hf => budget_suffices a p hfin (c.remaining / 4) name f hf c (by omega)

/-- **the bound is linear in the input** (`budget_linear`); `p.maxLocal 0`, the largest one-level budget, is a constant of the
    specification -/
theorem C04_depth_linear_in_input (a : Ast) (p : Plans) (hfin : p.finite = true) (name : String) (c : Cur) :
    ∀ f, (c.remaining / 4 + 1) * p.maxLocal 0 ≤ f → evalImpl a p f name c ≠ .outOfFuel :=
  fun f hf => C04_depth_bounded_by_input a p hfin name c f (Nat.le_trans (budget_linear p _) hf)

/-- **C04 (termination)** for finite types (`Plans.finite`; rustc rejects the others as infinitely sized): a budget from which
    on the model never answers `outOfFuel`.  The answer is the same at every sufficient budget: `C03_fuel_irrelevant`. -/
theorem C04_terminates (a : Ast) (p : Plans) (hfin : p.finite = true) (name : String) (c : Cur) :
    ∃ F, ∀ f, F ≤ f → evalImpl a p f name c ≠ .outOfFuel :=
  ⟨_, C04_depth_bounded_by_input a p hfin name c⟩

/-- **C04, the property's own words**, for well-formed plans with finite types: `Ok` or `Err`, one outcome at every sufficient
    budget -/
theorem C04_ok_or_err (a : Ast) (p : Plans) (hp : p.Ok = true) (hfin : p.finite = true) (name : String)
    (hn : (p.findImpl name).isSome = true) (c : Cur) :
    ∃ F, ((∃ v c', ∀ f, F ≤ f → evalImpl a p f name c = .ok v c') ∨ (∃ e l, ∀ f, F ≤ f → evalImpl a p f name c = .err e l)) := by
  obtain ⟨F, hF⟩ := C04_terminates a p hfin name c
  have hbad := C04_no_panic a p hp name hn F c
  have hno := hF F (Nat.le_refl _)
  have hmono : ∀ f, F ≤ f → evalImpl a p f name c = evalImpl a p F name c :=
    fun f hf => evalImpl_fuel_mono a p name c F f hf hno
  refine ⟨F, ?_⟩
  cases hr : evalImpl a p F name c with
  | ok v c' => exact Or.inl ⟨v, c', fun f hf => by rw [hmono f hf, hr]⟩
  | err e l => exact Or.inr ⟨e, l, fun f hf => by rw [hmono f hf, hr]⟩
  | panic s => rw [hr] at hbad; cases hbad
  | abort => rw [hr] at hbad; cases hbad
  | outOfFuel => exact absurd hr hno

/-- `C04_ok_or_err` at specification level: supported subset + finite types (`finite` is not part of `Supported`: rustc checks it) -/
theorem C04_ok_or_err_supported (a : Ast) (m : Module) (hs : Supported a = true) (hg : generateModule a = .ok m)
    (hfin : m.plans.finite = true) (name : String) (hn : declared a name = true) (c : Cur) :
    ∃ F, ((∃ v c', ∀ f, F ≤ f → evalImpl a m.plans f name c = .ok v c') ∨
          (∃ e l, ∀ f, F ≤ f → evalImpl a m.plans f name c = .err e l)) :=
  C04_ok_or_err a m.plans (supported_plans hs hg).1 hfin name ((plansFor_of_supported hs hg).declared_has_impl name hn) c

/-- non-vacuity: a recursive list type (`struct node { unsigned v; node *next; }`) is finite — the recursion is behind a `Box` -/
example : (Plans.mk [⟨"node", false, .struct [.plain "v" (.one (.prim .u32)), .optional "next" "node"]⟩] []).finite = true := by decide

/-- a type that contains itself directly (`struct bad { bad x; }`) is not finite -/
example : (Plans.mk [⟨"bad", false, .struct [.plain "x" (.one (.tryFrom "bad"))]⟩] []).finite = false := by decide

/-- the budget of the list type `struct node { unsigned v; node *next; }` on buffers of under 4, 8, 12, 16 and 44 bytes: 4, 7, 10, 13, 34 —
    three budget units (one nesting of `node::try_from`: impl, field list, field) per 4 bytes -/
example :
    let p : Plans := ⟨[⟨"node", false, .struct [.plain "v" (.one (.prim .u32)), .optional "next" "node"]⟩], []⟩
    p.finite = true ∧ p.budget 0 = 4 ∧ p.budget 1 = 7 ∧ p.budget 2 = 10 ∧ p.budget 3 = 13 ∧ p.budget 10 = 34 := by decide

/-! ### finding F1: `read_bytes` did not check the padding -/

/-- `read_bytes` as it was at the pinned commit: only the payload was checked -/
def readBytes_old (n : Nat) (c : Cur) : Res Val :=
  if c.remaining < n then .err .invalidLength c.log
  else (sliceP n c).bind fun data c1 =>
    (advanceP (n + padLen n) c1).bind fun _ c2 => .ok data c2

/-- witness: one payload byte without its padding made `Bytes::advance` panic -/
theorem C04_defect_read_bytes_old : (readBytes_old 1 ⟨0, [9], []⟩).isBad = true := by decide

/-- `read_bytes` as it is, on the input of `C04_defect_read_bytes_old`: `InvalidLength` -/
example : readBytes 1 ⟨0, [9], []⟩ = .err .invalidLength [] := rfl

end Fx.C04
