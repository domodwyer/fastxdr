/-
  C14 — the generator is total: Ok or Err, never a panic.

  The front end's only panics are the explicit `panicAt` outcomes of `Fx.Walk`
  / `Fx.Index`; this file characterises them site by site.  On the current
  tree the property is false at those sites (findings K6.*); the theorems say
  exactly where, so that any *other* panic is a new violation.
-/
import Fx.Lemmas.Generic
import Fx.Lemmas.Bins
import Fx.Lemmas.EmitTotal
import Fx.Lemmas.ParseSpec
import Fx.Lemmas.ParsePlain
import Fx.Lemmas.KnownPanics
namespace Fx.C14
open Fx

/-- a text the grammar rejects is reported as `Err`, never as a panic (the `?` in `Ast::new`) -/
theorem C14_reject_is_err (txt : String)
    (h : Peg.parseWith Grammar.xdr "item" txt.toList = .fail) : Ast.new txt = .err := by
  rw [Ast.new, h]

/-- four token shapes on which `StructField::new` answers, and what each yields -/
theorem C14_struct_field_ok (rhs : BasicType) (lhs : String) :
    StructField.new (.structDataField [.type rhs, .type (.ident lhs)]) = .ok ⟨lhs, .none rhs, false⟩ ∧
    (∀ sz, StructField.new (.structDataField [.type rhs, .type (.ident lhs), .arrayVariable sz]) =
        .ok ⟨lhs, .variable rhs (optSize sz), false⟩) ∧
    (∀ sz, StructField.new (.structDataField [.type rhs, .type (.ident lhs), .arrayFixed sz]) =
        .ok ⟨lhs, .fixed rhs (ArraySize.ofStr sz), false⟩) ∧
    (∀ rest, StructField.new (.structDataField [.type rhs, .option (.type (.ident lhs) :: rest)]) =
        .ok ⟨lhs, .none rhs, true⟩) := by
  refine ⟨rfl, fun _ => rfl, fun _ => rfl, fun _ => rfl⟩

/-- finding K6.b, on one instance: the primitive `u32` where a field name is expected reaches the `panic!` of
    `StructField::new` -/
theorem C14_struct_field_primitive_name_panics (rhs : BasicType) :
    StructField.new (.structDataField [.type rhs, .type .u32]) =
      .panicAt "structure.rs" "invalid number of struct field tokens" := rfl

/-- finding K6.a, on one instance: `type name<size>` in a union arm reaches the `panic!` of `UnionCase::new` -/
theorem C14_union_arm_array_panics (cv : List String) (t : BasicType) (l sz : String) :
    UnionCase.new cv [.type t, .type (.ident l), .arrayVariable sz] =
      .panicAt "union.rs" "invalid number of union field tokens" := rfl

theorem C14_union_arm_ok (cv : List String) (t : BasicType) (l : String) :
    UnionCase.new cv [.type t, .type (.ident l)] = .ok ⟨cv, l, .none t⟩ := rfl

/-- `Typedef::new` answers on three token shapes: `type alias`, with a fixed and with a variable array suffix -/
theorem C14_typedef_ok (target alias : BasicType) :
    (Typedef.new [.type target, .type alias]).isOk = true ∧
    (∀ s, (Typedef.new [.type target, .type alias, .arrayFixed s]).isOk = true) ∧
    (∀ s, (Typedef.new [.type target, .type alias, .arrayVariable s]).isOk = true) := by
  refine ⟨rfl, fun _ => rfl, fun s => ?_⟩
  simp only [Typedef.new]
  split
  · split <;> rfl
  · rfl

/-- `ConstantIndex::new` answers when no key is inserted twice (and only then: `constInsertAll_ok`, Lemmas/Bins); a key that
    is already present makes it panic -/
theorem C14_constant_index_ok_of_nodup (es : List (String × ConstantType)) (m : List (String × ConstantType))
    (hnd : (es.map (·.1)).Nodup) (hfresh : ∀ e ∈ es, bhas e.1 m = false) :
    (constInsertAll es m).isOk = true := by
  rw [constInsertAll_eq_binsAll (List.pairwise_map.mp (List.nodup_iff_pairwise_ne.mp hnd)) hfresh]
  rfl

theorem C14_constant_index_dup_panics (k : String) (v : ConstantType) (rest : List (String × ConstantType))
    (m : List (String × ConstantType)) (h : bhas k m = true) :
    constInsertAll ((k, v) :: rest) m = .panicAt "constants.rs" "duplicate case keys" := by
  simp [constInsertAll, h]

/-- the one non-structural loop of the front end terminates (`C13_terminates`) -/
theorem C14_generic_loop_terminates (gs : List GItem) : gpass gs (genericIndexOf gs) = genericIndexOf gs :=
  genericIndexOf_fix gs

/-- the grammar regenerated from `src/xdr.pest` has no recursion among its rules -/
theorem xdr_grammar_is_dag : Peg.dag Grammar.xdr = true := Fx.xdr_grammar_is_dag

/-- **C14 (the parser terminates).**  One budget `F` serves every text of at most `N` characters: rule references go down in
    rank (`xdr_grammar_is_dag`) and every repetition stops on an iteration without progress. -/
theorem C14_parser_terminates (N : Nat) :
    ∃ F, ∀ (txt : List Char), txt.length ≤ N → ∀ f, F ≤ f → Peg.evalRule Grammar.xdr f false "item" ⟨0, txt⟩ ≠ .outOfFuel := by
  obtain ⟨F, hF⟩ := Peg.parse_terminates Grammar.xdr _ (Peg.dag_ranked _ xdr_grammar_is_dag) N
  exact ⟨F, fun txt hl f hf => hF "item" ⟨0, txt⟩ hl f hf⟩

/-- `C14_parser_terminates` for one text: from some budget on the parser answers on it.  Nothing is stated here of what
    comes after the parser; the theorem about the whole front end is `C14_front_end_total`. -/
theorem C14_front_end_terminates (txt : List Char) :
    ∃ F, ∀ f, F ≤ f → ∃ r, Peg.evalRule Grammar.xdr f false "item" ⟨0, txt⟩ = r ∧ r ≠ .outOfFuel := by
  obtain ⟨F, hF⟩ := C14_parser_terminates txt.length
  exact ⟨F, fun f hf => ⟨_, rfl, hF txt (Nat.le_refl _) f hf⟩⟩

/-- the parse is a function of the text: there is one answer — accept with one token tree, or reject — and every sufficient
    budget returns it (termination + budget irrelevance) -/
theorem C14_parse_is_a_function (txt : List Char) :
    ∃ (r : Peg.PR) (F : Nat), r ≠ .outOfFuel ∧ ∀ f, F ≤ f → Peg.evalRule Grammar.xdr f false "item" ⟨0, txt⟩ = r := by
  obtain ⟨r, hr, F, hF⟩ := parse_answer_exists txt
  exact ⟨r, F, hr, hF⟩

/-- **C14 (exactly where the property fails).**  On EVERY text a panic of `Ast::new` is at one of the five `knownSites`: K6.a
    `UnionCase::new`, K6.b / K6.f `StructField::new`, K6.c `VariantValue::from` (the hex `unwrap`), K6.d `ConstantIndex::new`.
    The parser's token trees conform to the grammar (`Peg.shape_all`); on such trees the model's other panic sites are
    unreachable (Lemmas/WalkTotal). -/
theorem C14_only_known_panic_sites (txt : String) (f m : String) (h : Ast.new txt = .panicAt f m) : (f, m) ∈ knownSites :=
  Ast.new_known_panics txt f m h

/-- `C14_only_known_panic_sites` as a case split: `Ok`, `Err`, a panic at a known site, or the model's budget exhausted -/
theorem C14_ok_err_or_known_panic (txt : String) :
    (∃ a, Ast.new txt = .ok a) ∨ Ast.new txt = .err ∨ (∃ f m, Ast.new txt = .panicAt f m ∧ (f, m) ∈ knownSites) ∨ Ast.new txt = .outOfFuel := by
  cases h : Ast.new txt with
  | ok a => exact Or.inl ⟨a, rfl⟩
  | err => exact Or.inr (Or.inl rfl)
  | panicAt f m => exact Or.inr (Or.inr (Or.inl ⟨f, m, rfl, C14_only_known_panic_sites txt f m h⟩))
  | outOfFuel => exact Or.inr (Or.inr (Or.inr rfl))

/-- the emitters: after a successful `Ast::new`, `Generator::generate` returns `Ok`, returns `Err`, or reaches its one
    `unreachable!` — a fixed-length `string s[N]` (finding K6.e) -/
theorem C14_generate_only_known_panic (a : Ast) (f m : String) (h : generateModule a = .panicAt f m) :
    f = "from.rs" ∧ m = "unexpected fixed length string" :=
  generateModule_g1 a f m h

/-- **C14 on texts: where the constructor panics are *not*.**  For every well-formed text whose declarations are plain
    (`Spec.plain`, Lemmas/ParsePlain: none of the forms recorded as K6.a, K6.b, K6.c, K6.f) the front end (budget-free
    `Ast.newLim`) returns `Ok` or stops at the duplicate-name check of `ConstantIndex::new` (K6.d).  With
    `C14_only_known_panic_sites` the boundary of the property is stated on declarations. -/
theorem C14_plain_text_total (s : Parse.Spec) (hok : s.ok = true) (hp : s.plain = true) :
    (∃ a, Ast.newLim (String.ofList s.text) = .ok a) ∨
    Ast.newLim (String.ofList s.text) = .panicAt "constants.rs" "duplicate case keys" := by
  rw [Ast.newLim_of_ROk (Parse.spec_parses s hok)]
  rcases Parse.plain_front s hok hp with ⟨a, ha⟩ | hd
  · exact .inl ⟨a, congrArg C12.frontOf ha⟩
  · exact .inr (congrArg C12.frontOf hd)

/-- `C14_plain_text_total` for the executable `Ast.new`: that, or the model's budget for this text length is exhausted -/
theorem C14_plain_text (s : Parse.Spec) (hok : s.ok = true) (hp : s.plain = true) :
    Ast.new (String.ofList s.text) = .outOfFuel ∨ (∃ a, Ast.new (String.ofList s.text) = .ok a) ∨
    Ast.new (String.ofList s.text) = .panicAt "constants.rs" "duplicate case keys" :=
  (Ast.new_cases _).imp id fun e => by
    rw [e]
    exact C14_plain_text_total s hok hp

/-- **C14: the front end is total, with no budget in the statement** (`Ast.newLim`, Lemmas/PegLimit; `Ast.new` equals it
    wherever it answers) -/
theorem C14_front_end_total (txt : String) :
    (∃ a, Ast.newLim txt = .ok a) ∨ Ast.newLim txt = .err ∨ (∃ f m, Ast.newLim txt = .panicAt f m ∧ (f, m) ∈ knownSites) := by
  cases h : Ast.newLim txt with
  | ok a => exact Or.inl ⟨a, rfl⟩
  | err => exact Or.inr (Or.inl rfl)
  | panicAt f m => exact Or.inr (Or.inr ⟨f, m, rfl, Ast.newLim_known_panics txt f m h⟩)
  | outOfFuel => exact absurd h (Ast.newLim_ne_outOfFuel txt)

theorem C14_executable_front_end_agrees (txt : String) (h : Ast.new txt ≠ .outOfFuel) : Ast.new txt = Ast.newLim txt :=
  Ast.new_eq_newLim txt h

/-- non-vacuity: a plain specification with a fall-through union, an optional field and a counted array -/
def exP : Parse.Spec :=
  let sp : Parse.Layout := ⟨[' '], []⟩
  let nl := Parse.nl
  ⟨nl, [
    (.struct ⟨sp, ['n', 'o', 'd', 'e'], sp, sp,
      [(⟨.prim .int [' '], nl, none, ['v'], nl, none⟩, sp),
       (⟨.named ['n', 'o', 'd', 'e'], sp, some nl, ['n', 'e', 'x', 't'], nl, none⟩, sp),
       (⟨.prim .opaque [' '], nl, none, ['d'], nl, some (.var nl (some (.num ['8'], nl)), nl)⟩, sp)], nl⟩, sp),
    (.union ⟨sp, ['u'], sp, sp, nl, .prim .int [' '], nl, ['k'], nl, sp, sp,
      [(.case sp (.num ['1']) nl nl none, nl),
       (.case sp (.num ['2']) nl sp (some (.field ⟨.named ['n', 'o', 'd', 'e'], sp, none, ['a'], nl, none⟩)), sp),
       (.dflt nl sp (.void nl), sp)], nl⟩, nl)]⟩

example : exP.ok = true ∧ exP.plain = true := by decide
example : String.ofList exP.text =
    "struct node { int v; node *next; opaque d<8>; }; union u switch (int k) { case 1:case 2: node a; default: void; };" := rfl

end Fx.C14
