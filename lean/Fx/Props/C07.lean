/-
  C07 — accepted specifications yield a module that compiles, with the documented API.  rustc is not modelled: the decidable
  judgement `Fx.outputOk` stands in for it, validated against rustc on every compiled batch (both directions).  The structural
  part holds whenever generation succeeds; the type part of the judgement for every supported specification (`C07_types_part`).
-/
import Fx.OutputOk
import Fx.Props.C13
import Fx.Lemmas.Fits
namespace Fx.C07
open Fx

/-- the two decoder families are the same plans, printed under two templates (the `rfl` is `C03.emit_families_same_plan`) -/
theorem C07_families_identical (a : Ast) (m : Module) (h : generateModule a = .ok m) : m.fromBytes = m.fromRefMut := by
  obtain ⟨_, h1, h2, _⟩ := generateModule_ok h
  have : emitFrom .bytes a = emitFrom .refMutBytes a := rfl
  rw [this, h2] at h1
  injection h1 with h1
  exact h1.symm

/-- every impl header carries the `<Bytes>` parameter iff the name is in the generic index — decoder and size impls alike -/
theorem C07_impl_params_consistent (a : Ast) (m : Module) (h : generateModule a = .ok m) :
    m.fromRefMut.map (fun i => (i.name, i.generic)) = a.types.map (fun kv => (kv.2.rustName, a.isGeneric kv.2.rustName)) ∧
    m.sizes.map (fun s => (s.name, s.generic)) = a.types.map (fun kv => (kv.2.rustName, a.isGeneric kv.2.rustName)) := by
  obtain ⟨_, _, h2, h3⟩ := generateModule_ok h
  refine ⟨?_, ?_⟩
  · have := mapG_ok_map (g := fun (i : Impl) => (i.name, i.generic)) (h := fun (t : AstType) => (t.rustName, a.isGeneric t.rustName))
      (fun x y hxy => by simp [emitImpl_name hxy, emitImpl_generic hxy]) _ _ h2
    simpa [List.map_map, Function.comp_def] using this
  · rw [h3]
    simp [emitWireSize, List.map_map, Function.comp_def, emitSize_name, emitSize_generic]

/-- one impl of each family and one `WireSize` impl per declared type, in order, under the declaration's own name -/
theorem C07_three_impls_per_declaration (a : Ast) (m : Module) (h : generateModule a = .ok m) :
    m.fromBytes.map (·.name) = a.types.map (fun kv => kv.2.rustName) ∧
    m.fromRefMut.map (·.name) = a.types.map (fun kv => kv.2.rustName) ∧
    m.sizes.map (·.name) = a.types.map (fun kv => kv.2.rustName) := by
  obtain ⟨h2, h3⟩ := C07_impl_params_consistent a m h
  have e2 := congrArg (List.map Prod.fst) h2
  have e3 := congrArg (List.map Prod.fst) h3
  simp only [List.map_map, Function.comp_def] at e2 e3
  exact ⟨C07_families_identical a m h ▸ e2, e2, e3⟩

/-- the declaration as data (T1 compares its rendering with `print_types`): fields under the RAW declared name — `safeName` /
    `nonDigitName` are applied where names are printed (`TypeDecl.render`), evaluated (`fieldNameOf`, `evalImpl`) and judged
    (`declHygiene`), not here -/
theorem C07_struct_shape (a : Ast) (s : Struct) :
    emitTypeDecl a (.struct s) = some (.struct s.name (a.isGeneric s.name) (s.fields.map fun f =>
      (f.fieldName, if f.isOptional then .optBox (payloadTy a f.fieldValue) else payloadTy a f.fieldValue))) := rfl

/-- the field names of the declaration are the declared ones, in order (`safeName` on both sides adds nothing) -/
theorem C07_struct_field_names (a : Ast) (s : Struct) (g : Bool) (fs : List (String × TyExpr))
    (h : emitTypeDecl a (.struct s) = some (.struct s.name g fs)) :
    fs.map (fun f => safeName f.1) = s.fields.map (fun f => safeName f.fieldName) := by
  simp only [C07_struct_shape, Option.some.injEq, TypeDecl.struct.injEq, true_and] at h
  rw [← h.2]
  simp [List.map_map, Function.comp_def]

/-- `safeName`'s definition, restated: reserved words get `_v`, TRUE/FALSE are lower-cased, anything else is kept -/
theorem C07_safe_name (s : String) :
    safeName s = if isKeyword s then s ++ "_v" else if s == "TRUE" then "true" else if s == "FALSE" then "false" else s := rfl

/-- one variant per case label (each label of a fall-through group with the group's payload), then one per void label, then
    `default` if it carries data -/
theorem C07_union_shape (a : Ast) (u : Union) :
    emitTypeDecl a (.union u) = some (.union u.name (a.isGeneric u.name)
      ((u.cases.map fun c => c.caseValues.map fun l => (l, some (armTy a c.fieldValue))).flatten
       ++ u.voidCases.map (fun l => (l, none))
       ++ (match u.default with | some d => [("default", some (armTy a d.fieldValue))] | none => []))) := rfl

/-- `nonDigitName`'s two cases on a non-empty name, restated: `v_` in front of a leading digit, otherwise the label itself -/
theorem C07_variant_name_digit (c : Char) (cs : List Char) (h : '0' ≤ c ∧ c ≤ '9') :
    nonDigitName (String.ofList (c :: cs)) = "v_" ++ String.ofList (c :: cs) := by
  simp [nonDigitName, h]

theorem C07_variant_name_other (c : Char) (cs : List Char) (h : ¬ ('0' ≤ c ∧ c ≤ '9')) :
    nonDigitName (String.ofList (c :: cs)) = String.ofList (c :: cs) := by
  simp [nonDigitName, h]

/-- unless target and alias coincide, a typedef's declaration is a newtype named after the alias (nothing is said here of its
    parameter or inner type, nor of the coinciding case) -/
theorem C07_typedef_newtype (a : Ast) (td : Typedef) (h : (td.target == td.alias.unwrapArray) = false) :
    ∃ g sp inner, emitTypeDecl a (.typedef td) = some (.typedef td.alias.unwrapArray.asStr g sp inner) := by
  simp only [emitTypeDecl, h, Bool.false_eq_true, if_false]
  split
  · exact ⟨_, _, _, rfl⟩
  · split <;> exact ⟨_, _, _, rfl⟩

/-- rustc's rule "a type parameter is declared iff it is used" (E0392 / E0107), structs: `<T>` exactly when a field type of the
    declaration mentions `T`.  `g`, `fs` with the equation `h` stand for "the emitted declaration" (`h` is `C07_struct_shape`) -/
theorem C07_struct_param_declared_iff_used (items : List Item) (a : Ast) (ha : Ast.ofItems items = .ok a)
    (hnd : (gnames (items.filterMap gitemOf)).Nodup) (s : Struct) (hs : Item.struct s ∈ items)
    (g : Bool) (fs : List (String × TyExpr)) (h : emitTypeDecl a (.struct s) = some (.struct s.name g fs)) :
    g = fs.any (·.2.usesT) := by
  simp only [C07_struct_shape, Option.some.injEq, TypeDecl.struct.injEq, true_and] at h
  obtain ⟨hg, hfs⟩ := h
  rw [← hg, ← hfs, C13.C13_struct_param_iff_used items a ha hnd s hs]
  simp [List.any_map, Function.comp_def]

/-- the same for unions and their variants' payload types, the default's included; needs a label in every case group (`hne`).
    `g`, `vs`, `h` as above (the one caller passes `emitTypeDecl_union a u`) -/
theorem C07_union_param_declared_iff_used (items : List Item) (a : Ast) (ha : Ast.ofItems items = .ok a)
    (hnd : (gnames (items.filterMap gitemOf)).Nodup) (u : Union) (hu : Item.union u ∈ items)
    (hne : ∀ c ∈ u.cases, c.caseValues ≠ [])
    (g : Bool) (vs : List (String × Option TyExpr)) (h : emitTypeDecl a (.union u) = some (.union u.name g vs)) :
    g = vs.any (fun v => match v.2 with | some t => t.usesT | none => false) := by
  simp only [C07_union_shape, Option.some.injEq, TypeDecl.union.injEq, true_and] at h
  obtain ⟨hg, hvs⟩ := h
  rw [← hg, ← hvs, C13.C13_union_param_iff_used items a ha hnd u hu]
  simp only [List.any_append]
  rw [any_perLabel (g := fun c l => (l, some (armTy a c.fieldValue))) (q := fun c => (armTy a c.fieldValue).usesT) hne
    (fun _ _ => rfl)]
  simp only [List.any_map, Function.comp_def]
  have hv : (u.voidCases.any fun _ => false) = false := by simp
  cases u.default <;> simp [hv]

/-- **C07 (the three emitters agree).**  For every supported specification with the side conditions `paramsOk`, `labelsTyped`,
    `variantsDistinct` (decidable, left to rustc by `Supported`, evaluated per campaign specification) every emitted decoder
    fits the emitted declaration of the same name (`implFits`: parameter list, field and payload types, patterns against the
    discriminant's Rust type, enum arms, the newtype's inner type). -/
theorem C07_decoders_fit_declarations (a : Ast) (m : Module) (hs : Supported a = true) (hp : paramsOk a = true)
    (hl : labelsTyped a = true) (hv : variantsDistinct a = true) (hg : generateModule a = .ok m) :
    m.fromRefMut.all (implFits a m) = true ∧ m.fromBytes.all (implFits a m) = true := by
  have h := decoders_fit hs hp hl hv hg
  have hfam : m.fromBytes = m.fromRefMut := C07_families_identical a m hg
  exact ⟨h, by rw [hfam]; exact h⟩

/-- **C07 (every type written in a declaration resolves)**: to a primitive, `T`, `String`, or a declaration of the module,
    written with a parameter list exactly when that declaration has one. -/
theorem C07_declared_types_resolve (a : Ast) (m : Module) (hs : Supported a = true) (hp : paramsOk a = true)
    (hg : generateModule a = .ok m) : m.types.all (declTypesResolve m) = true :=
  decls_resolve hs hp hg

/-- `paramsOk` holds of every `Ast` the front end builds from items whose struct / union / typedef names are pairwise distinct
    and not also an enum's (typedefs: `C13_typedef_param_consistent`) -/
theorem C07_paramsOk_of_front_end (items : List Item) (a : Ast) (ha : Ast.ofItems items = .ok a)
    (hnd : (gnames (items.filterMap gitemOf)).Nodup)
    (hen : ∀ e, Item.enum e ∈ items → e.name ∉ gnames (items.filterMap gitemOf)) : paramsOk a = true := by
  obtain ⟨cs, _, rfl⟩ := Ast.ofItems_eq_ok.mp ha
  simp only [paramsOk, List.all_eq_true]
  intro kv hkv
  obtain ⟨item, hitem, hentry⟩ := typeIndex_mem hkv
  cases item <;> simp only [typeEntry, Option.some.injEq, reduceCtorEq] at hentry <;> subst hentry
  · simp only [beq_iff_eq]
    exact C13.C13_typedef_param_consistent items _ ha hnd _ hitem
  · rename_i e
    -- an enum is never in the generic index
    simp only [Bool.not_eq_true', Ast.isGeneric, List.contains_eq_mem, decide_eq_false_iff_not]
    exact fun hin => hen e hitem ((C13.C13_generics_iff_reach items e.name).mp hin).name
  · rfl
  · rfl

/-- `paramsUsed` holds of every `Ast` the front end builds from items with pairwise distinct struct / union / typedef names whose
    unions have a label in every case group -/
theorem C07_paramsUsed_of_front_end (items : List Item) (a : Ast) (ha : Ast.ofItems items = .ok a)
    (hnd : (gnames (items.filterMap gitemOf)).Nodup)
    (hne : ∀ u, Item.union u ∈ items → ∀ c ∈ u.cases, c.caseValues ≠ []) : paramsUsed a = true := by
  have hty : a.types = TypeIndex.new items := by
    obtain ⟨cs, _, rfl⟩ := Ast.ofItems_eq_ok.mp ha
    rfl
  simp only [paramsUsed, List.all_eq_true]
  intro kv hkv
  obtain ⟨item, hitem, hentry⟩ := typeIndex_mem (hty ▸ hkv)
  cases item <;> simp only [typeEntry, Option.some.injEq, reduceCtorEq] at hentry <;> subst hentry
  · rfl
  · rfl
  · simp only [beq_iff_eq]
    exact C13.C13_struct_param_iff_used items a ha hnd _ hitem
  · rename_i u
    simp only [beq_iff_eq]
    exact C07_union_param_declared_iff_used items a ha hnd u hitem (hne u hitem) (a.isGeneric u.name) (unionVariants a u) (emitTypeDecl_union a u)

/-- **C07: the whole type part of the judgement.**  `outputOk` is `outputTypesOk && outputHygiene` (`outputOk_split`), and
    `outputTypesOk` holds for EVERY supported specification with the four side conditions (`paramsOk`, `paramsUsed`: proved of
    front-end `Ast`s; `labelsTyped`, `variantsDistinct`: evaluated).  Left to evaluation: `outputHygiene` (conditions on the
    names chosen) and the agreement of the judgement with rustc. -/
theorem C07_types_part (a : Ast) (m : Module) (hs : Supported a = true) (hp : paramsOk a = true) (hu : paramsUsed a = true)
    (hl : labelsTyped a = true) (hv : variantsDistinct a = true) (hg : generateModule a = .ok m) :
    outputTypesOk a m = true ∧ outputOk a m = outputHygiene m := by
  have h1 := declarations_fit hs hp hu hg
  have h2 := (C07_decoders_fit_declarations a m hs hp hl hv hg).1
  have h3 : decide (m.fromBytes = m.fromRefMut) = true := by simp [C07_families_identical a m hg]
  have h4 : ((m.fromRefMut.map (·.name)) == (m.sizes.map (·.name))) = true := by
    obtain ⟨_, hb, hc⟩ := C07_three_impls_per_declaration a m hg
    rw [hb, hc]; exact beq_self_eq_true _
  have ht : outputTypesOk a m = true := by simp only [outputTypesOk, h1, h2, h3, h4, Bool.and_self]
  exact ⟨ht, by rw [outputOk_split, ht, Bool.true_and]⟩

/-- non-vacuity: `const A = 3; enum e { M = 1 }; struct s { opaque o<A>; unsigned int n; }; typedef unsigned int t;
    union u switch (e d) { case M: s x; }` satisfies the five Boolean hypotheses of `C07_types_part`; that `generateModule` answers
    `Ok` for it (`hg`) is not checked here -/
def exAst : Ast :=
  { constants := [("A", .constValue "3"), ("M", .enumValue "e" "M")],
    generics := ["s", "u"],
    types := [("e", .enum ⟨"e", [⟨"M", .numeric 1⟩]⟩),
              ("s", .struct ⟨"s", [⟨"o", .variable .opaque (some (.constant "A")), false⟩, ⟨"n", .none .u32, false⟩]⟩),
              ("t", .typedef ⟨.u32, .none (.ident "t")⟩),
              ("u", .union ⟨"u", [⟨["M"], "x", .none (.ident "s")⟩], none, [], ⟨"d", .ident "e"⟩⟩)] }

example : Supported exAst = true ∧ paramsOk exAst = true ∧ paramsUsed exAst = true ∧ labelsTyped exAst = true ∧ variantsDistinct exAst = true := by decide

end Fx.C07
