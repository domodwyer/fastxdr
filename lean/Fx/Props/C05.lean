/-
  C05 — declared maxima and available bytes are enforced: at reader level for every buffer, and at specification
  level (no strict prefix of an encoding, nothing above a declared maximum is accepted; a maximum only ever rejects).
-/
import Fx.Lemmas.Local
import Fx.Lemmas.Fuel
import Fx.Lemmas.Decodes
import Fx.Lemmas.Limits
namespace Fx.C05
open Fx

/-- a length above the declared maximum is `InvalidLength`, whatever else is in the buffer -/
theorem C05_over_max_opaque (m n : Nat) (hn : n < 2^32) (h : m < n) (o : Nat) (s : List Byte) (l) :
    readVariableBytes (some m) ⟨o, be32 n ++ s, l⟩ = .err .invalidLength l := by
  rw [readVariableBytes_be32 _ n hn, if_pos (by simp [overLimit, h])]

theorem C05_over_max_string (m n : Nat) (hn : n < 2^32) (h : m < n) (o : Nat) (s : List Byte) (l) :
    readString (some m) ⟨o, be32 n ++ s, l⟩ = .err .invalidLength l := by
  rw [readString_be32 _ n hn, if_pos (by simp [overLimit, h])]

/-- an element count above the declared maximum is `InvalidLength` before any element is looked at or any memory reserved -/
theorem C05_over_max_array (dec : Cur → Res Val) (ws : Val → Nat) (m n : Nat) (hn : n < 2^32) (h : m < n)
    (o : Nat) (s : List Byte) (l) :
    readVariableArray dec ws (some m) ⟨o, be32 n ++ s, l⟩ = .err .invalidLength l := by
  simp [readVariableArray, readU32_be32 n hn, overLimit, h]

/-- a length that exceeds the bytes present (payload or padding) is `InvalidLength` -/
theorem C05_over_available (max : Option Nat) (n : Nat) (hn : n < 2^32) (o : Nat) (s : List Byte) (l)
    (h : s.length < n + padLen n) :
    (readVariableBytes max ⟨o, be32 n ++ s, l⟩ = .err .invalidLength l) := by
  simp only [readVariableBytes, readU32_be32 n hn, Res.bind_ok]
  split
  · rfl
  · exact readBytes_short n _ h

/-- the comparison is `>`: a length exactly equal to the maximum is accepted -/
theorem C05_at_max_accepted (bs s : List Byte) (hl : bs.length < 2^32) (o : Nat) (l) :
    (readVariableBytes (some bs.length) ⟨o, (XVal.varOpaque bs).enc ++ s, l⟩).isOk = true := by
  rw [XVal.enc, readVariableBytes_enc bs s hl _ (by simp [overLimit])]
  rfl

/-- the bound the emitter passes is the declared one: a literal as written -/
theorem C05_bound_resolution_literal (a : Ast) (n : Nat) : resolveSize a (.known n) = .ok n := rfl

/-- a constant: an unfolding of `resolveSize`; that the number is the one the reference `boundValue` declares is
    `resolve_bound` (Lemmas/Typed) -/
theorem C05_bound_resolution_constant (a : Ast) (c t : String) (n : Nat)
    (hc : bget c a.constants = some (.constValue t)) (hp : parseU32 t = some n) :
    resolveSize a (.constant c) = .ok n := by
  simp [resolveSize, Ast.getConst, hc, ConstantType.display, hp]

/-- **C05 (no strict prefix of a valid encoding is ever accepted)**, for every supported specification, at any offset, with
    any budget.  By locality an accepted prefix would be accepted with the same stopping point on `enc x` itself, where the
    round trip stops at the end. -/
theorem C05_no_strict_prefix (a : Ast) (m : Module) (hs : Supported a = true) (hg : generateModule a = .ok m)
    (n : String) (x : XVal) (h : hasTypeNamed a n x = true) (pfx t : List Byte) (hsplit : x.enc = pfx ++ t) (ht : t ≠ [])
    (fuel off : Nat) (l : List Ev) (v : Val) (c' : Cur) :
    evalImpl a m.plans fuel n ⟨off, pfx, l⟩ ≠ .ok v c' := by
  intro hok
  obtain ⟨pre, d, o, r⟩ := (eval_loc a m.plans (supported_plans hs hg).2 fuel).impl n _ v c' hok
  -- `simp only at`: reduces the projections of `Cur.mk` in what `eval_loc` hands back
  simp only at d o
  obtain ⟨l2', e⟩ := r (c'.data ++ t) l
  have henc : pre ++ (c'.data ++ t) = x.enc := by rw [hsplit, d, List.append_assoc]
  rw [henc] at e
  have e1 := evalImpl_fuel_mono a m.plans n ⟨off, x.enc, l⟩ fuel (max fuel (x.fsize + 1)) (Nat.le_max_left _ _)
    (by simp only at e; rw [e]; simp)
  obtain ⟨l', e2⟩ := (supported_reads hs hg (max fuel (x.fsize + 1)) n (declared_of_hasTypeNamed h)).complete x h
    (by have := Nat.le_max_right fuel (x.fsize + 1); omega) off [] l
  simp only [List.append_nil] at e2
  simp only at e
  rw [e1, e] at e2
  injection e2 with _ hc
  injection hc with _ hdata _
  have : t = [] := (List.append_eq_nil_iff.mp hdata).2
  exact ht this

/-- **C05 (nothing above a declared maximum is ever accepted).**  For every supported specification and EVERY byte string an
    `Ok(v)` is the documented value of a *well-typed* `x`, and `hasType` checks `withinLimit` at every counted position.
    This characterises the VALUES the decoders return and how far they read — not the accepted inputs: padding bytes are
    skipped unread. -/
theorem C05_accepted_is_well_typed (a : Ast) (m : Module) (hs : Supported a = true) (hg : generateModule a = .ok m)
    (n : String) (hn : declared a n = true) (fuel : Nat) (c : Cur) (v : Val) (c' : Cur)
    (h : evalImpl a m.plans fuel n c = .ok v c') :
    ∃ x, hasTypeNamed a n x = true ∧ v = reprNamed a n c.off x ∧ c'.off = c.off + x.enc.length :=
  decode_sound hs hg n hn fuel c v c' h

/-- **C05 (a declared maximum only ever rejects)**, for ALL plans, inputs and budgets.  `p.eraseMax`: every `Some(max)` handed
    to `read_variable_bytes` / `read_string` / `read_variable_array` replaced by `None`. -/
theorem C05_limits_only_reject (a : Ast) (p : Plans) (fuel : Nat) (name : String) (c : Cur) :
    evalImpl a p fuel name c = evalImpl a p.eraseMax fuel name c ∨ ∃ l, evalImpl a p fuel name c = .err .invalidLength l :=
  (eval_lim a p fuel).impl name c

/-- **C05 (the error kind, at specification level).**  An input on which the decoder *without* the maxima returns an `Ok(v)`
    that is the documented value of no XDR value within the declared maxima is rejected with `Err(Error::InvalidLength)`. -/
theorem C05_over_max_is_invalid_length (a : Ast) (m : Module) (hs : Supported a = true) (hg : generateModule a = .ok m)
    (n : String) (hn : declared a n = true) (fuel : Nat) (c : Cur) (v : Val) (c' : Cur)
    (hun : evalImpl a m.plans.eraseMax fuel n c = .ok v c')
    (hover : ¬ ∃ x, hasTypeNamed a n x = true ∧ v = reprNamed a n c.off x) :
    ∃ l, evalImpl a m.plans fuel n c = .err .invalidLength l := by
  rcases C05_limits_only_reject a m.plans fuel n c with heq | hl
  · rw [hun] at heq
    obtain ⟨x, hx, hv, _⟩ := decode_sound hs hg n hn fuel c v c' heq
    exact absurd ⟨x, hx, hv⟩ hover
  · exact hl

/-- an instance by evaluation (a test): `struct s { opaque o<2>; }` on a 3-byte payload — `InvalidLength` with the maximum,
    the 3-byte value without it -/
example :
    let p : Plans := ⟨[⟨"s", true, .struct [.plain "o" (.varBytes (some 2))]⟩], []⟩
    (match evalImpl ⟨[], [], []⟩ p 9 "s" ⟨0, be32 3 ++ [1, 2, 3, 0], []⟩ with
     | .err .invalidLength _ => true | _ => false) = true ∧
    (match evalImpl ⟨[], [], []⟩ p.eraseMax 9 "s" ⟨0, be32 3 ++ [1, 2, 3, 0], []⟩ with
     | .ok (.struct "s" _ (.cons (.bytes 4 [1, 2, 3]) .nil)) c => c.off == 8 | _ => false) = true := by decide

/-- the reference's reading of a bounded position: at most `max` items (here for an opaque; strings and arrays alike) -/
example (a : Ast) : varHasType a (some 3) .opaque (.varOpaque [1, 2, 3]) = true ∧ varHasType a (some 3) .opaque (.varOpaque [1, 2, 3, 4]) = false := by
  constructor <;> (rw [varHasType.eq_def]; simp [withinLimit])

end Fx.C05
