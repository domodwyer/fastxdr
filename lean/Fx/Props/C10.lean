/-
  C10 — runtime readers and size helpers honour their contracts at every boundary.  f32/f64 are `read_u32`/`read_u64` by
  definition; `read_variable_array` is in C05, C09.  The statements are about `Fx.Runtime`, which is tied to the real readers
  by T4 (exhaustive grid, harness/rt).
-/
import Fx.Lemmas.Runtime
namespace Fx.C10
open Fx

/-- `pad_length`: the padded size is the least multiple of four ≥ n. -/
theorem padLen_spec (n : Nat) :
    (n + padLen n) % 4 = 0 ∧ padLen n < 4 ∧ ∀ k, (n + k) % 4 = 0 → padLen n ≤ k :=
  ⟨padLen_mod n, padLen_lt n, fun k h => padLen_min n k h⟩

/-- `read_u32`: fewer than 4 bytes → `InvalidLength`, nothing consumed or allocated. -/
theorem read_u32_short (c : Cur) (h : c.remaining < 4) : readU32 c = .err .invalidLength c.log :=
  by simp [readU32, h]

/-- `read_u32`: otherwise the big-endian value of the first four bytes, advance by 4, rest untouched. -/
theorem read_u32_value (n : Nat) (h : n < 2^32) (o : Nat) (s : List Byte) (l) :
    readU32 ⟨o, be32 n ++ s, l⟩ = .ok n ⟨o + 4, s, l⟩ := readU32_be32 n h o s l

/-- every buffer with ≥ 4 bytes is of the form `be32 n ++ s`, so the two cases above are exhaustive. -/
theorem read_u32_total (c : Cur) (h : 4 ≤ c.remaining) :
    ∃ n, n < 2^32 ∧ c.data = be32 n ++ c.data.drop 4 ∧ readU32 c = .ok n (c.advance 4) := by
  have e : readU32 c = .ok (beVal (c.data.take 4)) (c.advance 4) := by
    rw [readU32_eq, readRaw, if_neg (Nat.not_lt.mpr h)]
  obtain ⟨-, -, hn, ht⟩ := readU32_ok e
  exact ⟨_, hn, by rw [← ht, List.take_append_drop], e⟩

theorem read_u64_short (c : Cur) (h : c.remaining < 8) : readU64 c = .err .invalidLength c.log :=
  by simp [readU64, h]

theorem read_u64_value (n : Nat) (h : n < 2^64) (o : Nat) (s : List Byte) (l) :
    readU64 ⟨o, be64 n ++ s, l⟩ = .ok n ⟨o + 8, s, l⟩ := readU64_be64 n h o s l

/-- `read_i32` is `read_u32` reinterpreted in two's complement (same for i64/f32/f64: same bytes, same advance). -/
theorem read_i32_value (n : Nat) (h : n < 2^32) (o : Nat) (s : List Byte) (l) :
    readI32 ⟨o, be32 n ++ s, l⟩ = .ok (toSigned 32 n) ⟨o + 4, s, l⟩ := by
  simp [readI32, Res.map, readU32_be32 n h]

theorem read_i64_value (n : Nat) (h : n < 2^64) (o : Nat) (s : List Byte) (l) :
    readI64 ⟨o, be64 n ++ s, l⟩ = .ok (toSigned 64 n) ⟨o + 8, s, l⟩ := by
  simp [readI64, Res.map, readU64_be64 n h]

theorem read_i32_short (c : Cur) (h : c.remaining < 4) : readI32 c = .err .invalidLength c.log := by
  simp [readI32, Res.map, read_u32_short c h]

theorem read_i64_short (c : Cur) (h : c.remaining < 8) : readI64 c = .err .invalidLength c.log := by
  simp [readI64, Res.map, read_u64_short c h]

/-- `read_bool`: exactly the words 0 and 1 are accepted, every other 32-bit word is `InvalidBoolean`. -/
theorem read_bool_spec (n : Nat) (h : n < 2^32) (o : Nat) (s : List Byte) (l) :
    readBool ⟨o, be32 n ++ s, l⟩ =
      if n = 0 then .ok false ⟨o + 4, s, l⟩
      else if n = 1 then .ok true ⟨o + 4, s, l⟩
      else .err .invalidBoolean l := readBool_be32 n h o s l

theorem read_bool_short (c : Cur) (h : c.remaining < 4) : readBool c = .err .invalidLength c.log := by
  simp [readBool, read_i32_short c h]

/-- `read_bytes(n)` with fewer than `n + pad` bytes left: `InvalidLength` (the padding is checked before the slice is taken) -/
theorem read_bytes_short (n : Nat) (c : Cur) (h : c.remaining < n + padLen n) :
    readBytes n c = .err .invalidLength c.log := readBytes_short n c h

/-- `read_bytes(n)` with at least `n + pad` bytes left: the first `n` bytes as a window at the same offset, advance by `n + pad` -/
theorem read_bytes_enough (n : Nat) (c : Cur) (h : n + padLen n ≤ c.remaining) :
    readBytes n c = .ok (.bytes c.off (c.data.take n)) (c.advance (n + padLen n)) :=
  readBytes_enough n c h

/-- `read_variable_bytes(max)`: complete case split on the count word. -/
theorem read_variable_bytes_spec (max : Option Nat) (n : Nat) (h : n < 2^32) (o : Nat) (s : List Byte) (l) :
    readVariableBytes max ⟨o, be32 n ++ s, l⟩ =
      if overLimit max n then .err .invalidLength l
      else if s.length < n + padLen n then .err .invalidLength l
      else .ok (.bytes (o + 4) (s.take n)) ⟨o + 4 + (n + padLen n), s.drop (n + padLen n), l⟩ :=
  readVariableBytes_be32 max n h o s l

theorem read_variable_bytes_short (max : Option Nat) (c : Cur) (h : c.remaining < 4) :
    readVariableBytes max c = .err .invalidLength c.log := by
  simp [readVariableBytes, read_u32_short c h]

/-- the limit is compared with `>`: a length equal to the maximum is accepted -/
theorem overLimit_spec (max : Option Nat) (n : Nat) :
    overLimit max n = true ↔ ∃ m, max = some m ∧ m < n := by
  cases max <;> simp [overLimit]

/-- `read_string(max)`: as `read_variable_bytes`, then one copy of `n` bytes and the UTF-8 check. -/
theorem read_string_spec (max : Option Nat) (n : Nat) (h : n < 2^32) (o : Nat) (s : List Byte) (l) :
    readString max ⟨o, be32 n ++ s, l⟩ =
      if overLimit max n then .err .invalidLength l
      else if s.length < n + padLen n then .err .invalidLength l
      else if utf8Valid (s.take n) then
        .ok (.str (s.take n)) ⟨o + 4 + (n + padLen n), s.drop (n + padLen n), l ++ [.str (min n s.length)]⟩
      else .err .nonUtf8String (l ++ [.str (min n s.length)]) :=
  readString_be32 max n h o s l

/-- `read_u32`, `read_u64`, `read_bytes` never panic or abort, whatever the buffer (all eight readers: `C04_readers`) -/
theorem readers_never_panic (c : Cur) (n : Nat) :
    (readU32 c).isBad = false ∧ (readU64 c).isBad = false ∧ (readBytes n c).isBad = false :=
  ⟨readU32_eq c ▸ readRaw_noBad _ _ c, readU64_eq c ▸ readRaw_noBad _ _ c, readBytes_eq n c ▸ readRaw_noBad _ _ c⟩

/-- the blanket size helpers give the RFC 4506 size of what they hold.  `wsVec`/`wsSlice`/`wsOption` are used by the runtime driver
    only: `wsVal` spells those rules inline (it does use `wsString`) and no lemma links the two -/
theorem ws_vec_spec (elems : List Nat) : wsVec elems = 4 + elems.sum + padLen elems.sum := rfl
theorem ws_slice_spec (elems : List Nat) : wsSlice elems = elems.sum + padLen elems.sum := rfl
theorem ws_string_spec (len : Nat) : wsString len = 4 + len + padLen len ∧ wsString len % 4 = 0 := by
  refine ⟨rfl, ?_⟩
  have := padLen_mod len
  unfold wsString; omega
theorem ws_option_spec : wsOption none = 4 ∧ ∀ n, wsOption (some n) = 4 + n := ⟨rfl, fun _ => rfl⟩

/-- non-vacuity: a buffer of five bytes holding the word 5 and one trailing byte -/
example : readU32 ⟨0, be32 5 ++ [0xaa], []⟩ = .ok 5 ⟨4, [0xaa], []⟩ := read_u32_value 5 (by decide) 0 _ _
example : readVariableBytes (some 3) ⟨0, be32 3 ++ [1, 2, 3, 0, 9], []⟩ = .ok (.bytes 4 [1, 2, 3]) ⟨8, [9], []⟩ := by
  rw [read_variable_bytes_spec (some 3) 3 (by decide)]; simp [overLimit, padLen]

end Fx.C10
