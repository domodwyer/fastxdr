/-
  C15 — the CLI prints exactly what the library generates.
-/
import Fx.Cli
namespace Fx.C15
open Fx

def texts : List FileOutcome → Option (List String)
  | [] => some []
  | .generated t :: rest => (texts rest).map (t :: ·)
  | _ :: _ => none

theorem cliGo_generated_append (ts : List String) (rest : List FileOutcome) (out : String) :
    cliGo (ts.map .generated ++ rest) out = cliGo rest (out ++ concatLines ts) := by
  induction ts generalizing out with
  | nil => simp [concatLines]
  | cons t ts ih => simp [cliGo, ih, concatLines, String.append_assoc]

/-- every file read and generated: stdout is the library's text for each file in argument order, each followed by
    the newline `println!` adds, and the exit status is 0 -/
theorem C15_cli_all_ok (argv0 : String) (ts : List String) (h : ts ≠ []) :
    cli argv0 (ts.map .generated) = (concatLines ts, 0) := by
  obtain ⟨t, ts, rfl⟩ := List.exists_cons_of_ne_nil h
  have := cliGo_generated_append (t :: ts) [] ""
  simpa [cli, cliGo] using this

/-- no arguments: usage line, non-zero exit -/
theorem C15_cli_no_args (argv0 : String) : (cli argv0 []).2 = 1 ∧ (cli argv0 []).1 = "usage: " ++ argv0 ++ " ./path/to/spec.x\n" :=
  ⟨rfl, rfl⟩

/-- the first file that cannot be read, is rejected, or makes the generator panic: non-zero exit, and stdout holds
    exactly the output of the files before it -/
theorem C15_cli_first_failure (argv0 : String) (ts : List String) (bad : FileOutcome) (hb : ∀ t, bad ≠ .generated t)
    (rest : List FileOutcome) :
    (cli argv0 (ts.map .generated ++ bad :: rest)).1 = concatLines ts ∧
    (cli argv0 (ts.map .generated ++ bad :: rest)).2 ≠ 0 := by
  have hc : cli argv0 (ts.map .generated ++ bad :: rest) = cliGo (ts.map .generated ++ bad :: rest) "" := by
    cases ts <;> rfl
  rw [hc, cliGo_generated_append]
  cases bad with
  | generated t => exact absurd rfl (hb t)
  | _ => simp [cliGo]

example : cli "fastxdr" [.generated "A", .generated "B"] = ("A\nB\n", 0) := by decide
example : cli "fastxdr" [.generated "A", .rejected, .generated "B"] = ("A\n", 1) := by decide

end Fx.C15
