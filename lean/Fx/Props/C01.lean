/-
  C01 — decoding the XDR encoding of any value returns that value (`C01_roundtrip_supported`).
-/
import Fx.Lemmas.Decodes
import Fx.Props.C12
namespace Fx.C01
open Fx

/-- `read_u32` on the encoding of `n`: the value, four bytes consumed, whatever follows untouched -/
theorem C01_u32 (n : Nat) (h : n < 2^32) (o : Nat) (s : List Byte) (l) :
    readU32 ⟨o, (XVal.u32 n).enc ++ s, l⟩ = .ok n ⟨o + 4, s, l⟩ := readU32_be32 n h o s l

/-- `read_u64` on the encoding of `n`: the value, eight bytes consumed, whatever follows untouched -/
theorem C01_u64 (n : Nat) (h : n < 2^64) (o : Nat) (s : List Byte) (l) :
    readU64 ⟨o, (XVal.u64 n).enc ++ s, l⟩ = .ok n ⟨o + 8, s, l⟩ := readU64_be64 n h o s l

/-- variable-length opaque: the payload as a window of the input at its wire offset; a maximum ≥ the length does not matter -/
theorem C01_var_opaque (bs s : List Byte) (max : Option Nat) (hl : bs.length < 2^32)
    (hm : ∀ m, max = some m → bs.length ≤ m) (o : Nat) (l) :
    readVariableBytes max ⟨o, (XVal.varOpaque bs).enc ++ s, l⟩ =
      .ok (.bytes (o + 4) bs) ⟨o + (4 + bs.length + padLen bs.length), s, l⟩ := by
  refine readVariableBytes_enc bs s hl max ?_ o l
  cases max with
  | none => rfl
  | some m => simpa [overLimit] using hm m rfl

/-- fixed-length opaque: the window at the cursor's own offset; payload and padding consumed -/
theorem C01_fixed_opaque (bs s : List Byte) (o : Nat) (l) :
    readBytes bs.length ⟨o, (XVal.fixedOpaque bs).enc ++ s, l⟩ =
      .ok (.bytes o bs) ⟨o + (bs.length + padLen bs.length), s, l⟩ := by
  simp only [XVal.enc]
  exact readBytes_enc bs s o l

/-- **C01.**  For a supported `Ast` (`Supported` excludes e.g. the bracket-less `opaque` of finding K1) for which generation
    succeeds and every `x` the reference typing accepts for `n`: the generated decoder on `enc x ++ s`, at any fuel above
    `x.fsize` (a count of evaluator calls, not bytes), returns the documented Rust value `reprNamed a n off x`, each opaque
    leaf the window of the input at its wire offset.  Both families: `C03_families_agree`. -/
theorem C01_roundtrip_supported (a : Ast) (m : Module) (hs : Supported a = true) (hg : generateModule a = .ok m)
    (n : String) (x : XVal) (h : hasTypeNamed a n x = true)
    (fuel : Nat) (hf : x.fsize < fuel) (off : Nat) (s : List Byte) (l : List Ev) :
    ∃ l', evalImpl a m.plans fuel n ⟨off, x.enc ++ s, l⟩ = .ok (reprNamed a n off x) ⟨off + x.enc.length, s, l'⟩ :=
  (supported_reads hs hg fuel n (declared_of_hasTypeNamed h)).complete x h hf off s l

/-- `C01_roundtrip_supported` with the redundant hypothesis `hms` (`C06_match_selects` proves it from `hs hg`) -/
theorem C01_roundtrip (a : Ast) (m : Module) (hs : Supported a = true) (hg : generateModule a = .ok m)
    (hms : MatchSelects a m.plans) (n : String) (x : XVal) (h : hasTypeNamed a n x = true)
    (fuel : Nat) (hf : x.fsize < fuel) (off : Nat) (s : List Byte) (l : List Ev) :
    ∃ l', evalImpl a m.plans fuel n ⟨off, x.enc ++ s, l⟩ = .ok (reprNamed a n off x) ⟨off + x.enc.length, s, l'⟩ :=
  C01_roundtrip_supported a m hs hg n x h fuel hf off s l

/-- `C01_roundtrip_supported` with an unused hypothesis `hnu` -/
theorem C01_roundtrip_no_unions (a : Ast) (m : Module) (hs : Supported a = true) (hg : generateModule a = .ok m)
    (hnu : ∀ n u, bget n a.types ≠ some (.union u))
    (n : String) (x : XVal) (h : hasTypeNamed a n x = true)
    (fuel : Nat) (hf : x.fsize < fuel) (off : Nat) (s : List Byte) (l : List Ev) :
    ∃ l', evalImpl a m.plans fuel n ⟨off, x.enc ++ s, l⟩ = .ok (reprNamed a n off x) ⟨off + x.enc.length, s, l'⟩ :=
  C01_roundtrip_supported a m hs hg n x h fuel hf off s l

/-- consequence (C02 for values): `wire_size()` of the decoded value is the length of the encoding -/
theorem C01_wire_size_supported (a : Ast) (m : Module) (hs : Supported a = true) (hg : generateModule a = .ok m)
    (n : String) (x : XVal) (h : hasTypeNamed a n x = true) :
    wsVal m.plans (reprNamed a n 0 x) = x.enc.length := by
  obtain ⟨l', e⟩ := C01_roundtrip_supported a m hs hg n x h (x.fsize + 1) (by omega) 0 [] []
  have := (eval_consumed a m.plans (supported_plans hs hg).2 (x.fsize + 1)).impl n _ _ _ e
  have h2 := this.off
  simp only at h2
  omega

/-- **C01 from the specification text.**  For a well-formed text (`Spec.ok`) with type names declared once and supported
    content (`SupportedContent`; the rest of `Supported`: `C12_supported_iff_content`), the budget-free front end `Ast.newLim`
    (`Ast.new` wherever that answers: `Ast.new_cases`) returns the `Ast` of its declarations, and every module generated for
    it round-trips as in `C01_roundtrip_supported`. -/
theorem C01_roundtrip_from_text (s : Parse.Spec) (hok : s.ok = true)
    (ns : List Node) (items : List Item) (a : Ast)
    (hns : mapOut (fun dl : Parse.Decl × Parse.Layout => dl.1.node) s.decls = .ok ns)
    (hitems : itemsOf (ns ++ [.eof]) = .ok items) (ha : Ast.ofItems items = .ok a)
    (hd : (items.filterMap typeEntry).Pairwise (fun x y => x.1 ≠ y.1))
    (hc : C12.SupportedContent a = true) :
    Ast.newLim (String.ofList s.text) = .ok a ∧
    ∀ (m : Module), generateModule a = .ok m →
      ∀ (n : String) (x : XVal), hasTypeNamed a n x = true →
        ∀ (fuel : Nat), x.fsize < fuel → ∀ (off : Nat) (sfx : List Byte) (l : List Ev),
          ∃ l', evalImpl a m.plans fuel n ⟨off, x.enc ++ sfx, l⟩ = .ok (reprNamed a n off x) ⟨off + x.enc.length, sfx, l'⟩ := by
  have e1 := C12.C12_ast_closed_form_total s hok
  simp only [hns, Out.bind_ok, hitems, ha] at e1
  have hs : Supported a = true := by rw [C12.C12_supported_iff_content items a ha hd]; exact hc
  exact ⟨e1, fun m hg n x hx fuel hf off sfx l => C01_roundtrip_supported a m hs hg n x hx fuel hf off sfx l⟩

section example_from_text
open Parse

private def sp1 : Layout := ⟨[' '], []⟩
private def nl0 : Layout := ⟨[], []⟩

def exT : Spec := ⟨⟨[], [(.long ['h', 'i'], ['\n'])]⟩, [
  (.const ⟨sp1, ['A'], sp1, sp1, ['4'], nl0⟩, sp1),
  (.struct ⟨sp1, ['s'], sp1, sp1,
     [(⟨.prim .opaque [' '], nl0, none, ['o'], nl0, some (.var nl0 (some (.name ['A'], nl0)), nl0)⟩, sp1),
      (⟨.prim (.uint [' ', '\t']) [' '], nl0, none, ['n'], nl0, none⟩, sp1)], nl0⟩, nl0)]⟩

example : exT.ok = true := by decide
example : String.ofList exT.text = "/*hi*/\nconst A = 4; struct s { opaque o<A>; unsigned \tint n; };" := rfl

/-- the hypotheses of `C01_roundtrip_from_text` hold for it (non-vacuity) -/
example : ∃ ns items a, mapOut (fun dl : Decl × Layout => dl.1.node) exT.decls = .ok ns ∧ itemsOf (ns ++ [.eof]) = .ok items ∧
    Ast.ofItems items = .ok a ∧ (items.filterMap typeEntry).Pairwise (fun x y => x.1 ≠ y.1) ∧ C12.SupportedContent a = true :=
  ⟨_, _, _, rfl, rfl, rfl, by decide, by decide⟩

end example_from_text

end Fx.C01
