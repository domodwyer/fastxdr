/-
  C13 — a type is generic exactly when opaque data is reachable from it.
-/
import Fx.Lemmas.Generic
import Fx.Lemmas.IndexFacts
import Fx.Lemmas.PayloadTy
namespace Fx.C13
open Fx

/-- `n ∈ generics()` iff an `opaque` is reachable from `n` — for every list of root items,
    in any order, of any depth and shape (cycles, undeclared references included). -/
theorem C13_fixpoint_is_reachability (gs : List GItem) (n : String) :
    n ∈ genericIndexOf gs ↔ Reach gs n :=
  mem_genericIndexOf_iff gs n

/-- `n ∈ GenericIndex::new(items)` iff an `opaque` is reachable from `n` among the `Item`s `walk` leaves at the root -/
theorem C13_generics_iff_reach (items : List Item) (n : String) :
    n ∈ GenericIndex.new items ↔ Reach (items.filterMap gitemOf) n :=
  C13_fixpoint_is_reachability _ n

/-- reachability, hence membership in the generic index, does not depend on the order of the declarations -/
theorem C13_order_independent {gs gs' : List GItem} (hp : gs.Perm gs') (n : String) :
    n ∈ genericIndexOf gs ↔ n ∈ genericIndexOf gs' := by
  rw [C13_fixpoint_is_reachability, C13_fixpoint_is_reachability]
  exact ⟨Reach.mono fun _ => hp.mem_iff.mp, Reach.mono fun _ => hp.mem_iff.mpr⟩

/-- the generic index is a fixpoint of the pass: one more pass adds nothing to it.  That the loop of `GenericIndex::new`
    terminates is read off this with `gloop_fix`, which says why the model's budget `gs.length + 1` is not spent before the exit
    test fires. -/
theorem C13_terminates (gs : List GItem) :
    gpass gs (genericIndexOf gs) = genericIndexOf gs :=
  genericIndexOf_fix gs

/-- non-vacuity of `Reach`: a chain of depth 3, declared before what it refers to, ending in an item with an `opaque` of its own -/
example : Reach [⟨"a", false, ["b"]⟩, ⟨"b", false, ["c"]⟩, ⟨"c", true, []⟩] "a" :=
  .ref (it := ⟨"a", false, ["b"]⟩) (by simp) (by simp)
    (.ref (it := ⟨"b", false, ["c"]⟩) (by simp) (by simp) (.own (it := ⟨"c", true, []⟩) (by simp) rfl))

/-- the least fixpoint read one step at a time: a declared name is in the index iff its own declaration holds an `opaque` or
    refers to a name in the index -/
theorem C13_generic_iff_hit (gs : List GItem) (hnd : (gnames gs).Nodup) (it : GItem) (hm : it ∈ gs) :
    it.name ∈ genericIndexOf gs ↔ it.hit (genericIndexOf gs) = true :=
  mem_genericIndexOf_iff_hit gs hnd it hm

/-- **C13, emitted types.**  With distinct type names, a struct is in the generic index (so its type, decoders and size impl are
    printed with the parameter: `C07_impl_params_consistent`) iff one of its printed field types mentions `T` — declared exactly
    where used, as rustc demands (E0392 / E0107). -/
theorem C13_struct_param_iff_used (items : List Item) (a : Ast) (ha : Ast.ofItems items = .ok a)
    (hnd : (gnames (items.filterMap gitemOf)).Nodup) (s : Struct) (hs : Item.struct s ∈ items) :
    a.isGeneric s.name = (s.fields.any fun f =>
      (if f.isOptional then TyExpr.optBox (payloadTy a f.fieldValue) else payloadTy a f.fieldValue).usesT) := by
  rw [isGeneric_eq_hit ha hnd hs rfl, GItem.hit_mk_eq_any, Struct.innerTypes, List.any_map]
  congr 1
  funext f
  cases f.isOptional <;> simp [TyExpr.usesT, payloadTy_usesT]

/-- **C13, emitted types**, unions: in the generic index iff one of the printed arm payload types, the default arm's included,
    mentions `T` -/
theorem C13_union_param_iff_used (items : List Item) (a : Ast) (ha : Ast.ofItems items = .ok a)
    (hnd : (gnames (items.filterMap gitemOf)).Nodup) (u : Union) (hu : Item.union u ∈ items) :
    a.isGeneric u.name = ((u.cases ++ u.default.toList).any fun c => (armTy a c.fieldValue).usesT) := by
  rw [isGeneric_eq_hit ha hnd hu rfl, GItem.hit_mk_eq_any, Union.innerTypes, List.any_map]
  congr 1
  funext c
  exact (armTy_usesT a c.fieldValue).symm

/-- typedefs: the name is in the index exactly when the target is `opaque` or generic.  This is the index's own hit condition
    (`C13_generic_iff_hit`) on the `Ast`, not a `usesT` of a printed type as for structs and unions. -/
theorem C13_typedef_param_consistent (items : List Item) (a : Ast) (ha : Ast.ofItems items = .ok a)
    (hnd : (gnames (items.filterMap gitemOf)).Nodup) (t : Typedef) (ht : Item.typedef t ∈ items) :
    a.isGeneric t.alias.unwrapArray.asStr =
      (t.target.isOpaque || a.targetGeneric t.target) := by
  rw [isGeneric_eq_hit ha hnd ht rfl, GItem.hit, identRefs_any_eq_targetGeneric]

end Fx.C13
