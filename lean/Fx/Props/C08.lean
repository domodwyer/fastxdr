/-
  C08 — opaque data is never copied out of the input buffer.
-/
import Fx.Lemmas.Leaves
import Fx.Lemmas.Decodes
namespace Fx.C08
open Fx

/-- `read_bytes`: the payload is a window of the input: same offset as the cursor, bytes = the input's bytes there, and it fits
    (the second conjunct is `n ≤ c.remaining`, written with the offsets) -/
theorem C08_read_bytes_view (n : Nat) (c : Cur) (v : Val) (c' : Cur) (h : readBytes n c = .ok v c') :
    v = .bytes c.off (c.data.take n) ∧ c.off + n ≤ c.off + c.remaining := by
  obtain ⟨_, hl, hv⟩ := readBytes_ok h
  exact ⟨hv, by omega⟩

/-- `read_variable_bytes`: the payload is the window right after the length word -/
theorem C08_read_variable_bytes_view (m : Option Nat) (c : Cur) (v : Val) (c' : Cur)
    (h : readVariableBytes m c = .ok v c') :
    ∃ n, v = .bytes (c.off + 4) ((c.data.drop 4).take n) ∧ c.off + 4 + n ≤ c.off + c.remaining := by
  obtain ⟨n, _, hn, _, _, hv⟩ := readVariableBytes_ok h
  exact ⟨n, hv, by omega⟩

/-- **C08: every opaque leaf of every successfully decoded value is a view of the input** (`Val.LeavesIn`; for one leaf:
    `C08_leaf_meaning`), for ALL byte strings, ALL plans, every type and budget. -/
theorem C08_views (a : Ast) (p : Plans) (fuel : Nat) (name : String) (c : Cur) (v : Val) (c' : Cur)
    (h : evalImpl a p fuel name c = .ok v c') : v.LeavesIn c :=
  (eval_leaves a p fuel).impl name c c v c' (Adv.refl c) h

/-- `Val.LeavesIn` for a single `Bytes` -/
theorem C08_leaf_meaning (c : Cur) (off : Nat) (bs : List Byte) :
    (Val.bytes off bs).LeavesIn c ↔
      (c.off ≤ off ∧ off + bs.length ≤ c.off + c.remaining ∧ bs = (c.data.drop (off - c.off)).take bs.length) := by
  simp [Val.LeavesIn, leafIn]

/-- non-vacuity: a struct holding a counted opaque, decoded from a view that starts at offset 7 -/
example : (Val.struct "s" ["o"] (.cons (.bytes 11 [1, 2]) .nil)).LeavesIn ⟨7, be32 2 ++ [1, 2, 0, 0], []⟩ :=
  ⟨⟨by decide, by decide, rfl⟩, trivial⟩

/-- **C08 at the level of the specification**: "at exactly the offset where they appear on the wire" — `reprNamed a n c.off x`
    places every opaque leaf at the offset the RFC 4506 encoding of `x` assigns to its bytes, and each leaf is the input's
    window there (`LeavesIn`). -/
theorem C08_leaves_at_wire_offsets (a : Ast) (m : Module) (hs : Supported a = true) (hg : generateModule a = .ok m)
    (n : String) (hn : declared a n = true) (fuel : Nat) (c : Cur) (v : Val) (c' : Cur)
    (h : evalImpl a m.plans fuel n c = .ok v c') :
    (∃ x, hasTypeNamed a n x = true ∧ v = reprNamed a n c.off x) ∧ v.LeavesIn c := by
  obtain ⟨x, hx, hv, _⟩ := decode_sound hs hg n hn fuel c v c' h
  exact ⟨⟨x, hx, hv⟩, C08_views a m.plans fuel n c v c' h⟩

end Fx.C08
