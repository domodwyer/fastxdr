/-
  C03 — both decoder families agree; a successful decode moves the cursor forward within the buffer (how far: C02), depends only
  on the bytes it consumed, and not on where the view sits.
-/
import Fx.Lemmas.Advance
import Fx.Lemmas.Local
import Fx.Lemmas.Fuel
import Fx.Lemmas.Shift
import Fx.Lemmas.EmitPlans
namespace Fx.C03
open Fx

/-- the two `TryFrom` families are the same emitter run under two templates: the plans are equal (`emitFrom` ignores the template;
    the templates differ only in `Render`) -/
theorem emit_families_same_plan (a : Ast) : emitFrom .bytes a = emitFrom .refMutBytes a := rfl

/-- the model has ONE evaluator for both families (`decodeByValue` and `decodeRefMut` are the same expression), so this holds by
    definition; that the two generated Rust families behave as that one evaluator is what the tie T2 carries -/
theorem C03_families_agree (a : Ast) (p : Plans) (name : String) (c : Cur) :
    decodeByValue a p name c = decodeRefMut a p name c := rfl

/-- on success the `&mut` form leaves the caller's buffer advanced by some `k ≤ remaining`, the bytes after `k` untouched.
    For ALL byte strings, ALL plans, every budget. -/
theorem C03_cursor (a : Ast) (p : Plans) (fuel : Nat) (name : String) (c : Cur) (v : Val) (c' : Cur)
    (h : evalImpl a p fuel name c = .ok v c') :
    ∃ k, k ≤ c.remaining ∧ c'.off = c.off + k ∧ c'.data = c.data.drop k :=
  (eval_adv a p fuel).impl name c v c' h

/-- non-vacuity: a concrete successful decode of a struct of two words followed by one spare byte -/
example : evalImpl ⟨[], [], []⟩ ⟨[⟨"s", false, .struct [.plain "a" (.one (.prim .u32)), .plain "b" (.one (.prim .u32))]⟩], []⟩
      10 "s" ⟨0, be32 1 ++ be32 2 ++ [9], []⟩ =
    .ok (.struct "s" ["a", "b"] (.cons (.u32 1) (.cons (.u32 2) .nil))) ⟨8, [9], []⟩ := by
  simp [evalImpl, Plans.findImpl, evalFields, evalField, evalBasic, readPrim, Res.map, readU32_be32, fieldNameOf,
    List.append_assoc, safeName, isKeyword, rustKeywords]

/-- **C03 (locality)**, for all plans whose size impls are exact: "the result does not depend on what follows the value in the
    buffer".  (Only the log may differ: the reservation looks at `remaining()`.) -/
theorem C03_locality (a : Ast) (p : Plans) (hp : p.SizeExact' = true) (fuel : Nat) (name : String) (c : Cur) (v : Val) (c' : Cur)
    (h : evalImpl a p fuel name c = .ok v c') :
    ∃ pre, c.data = pre ++ c'.data ∧ c'.off = c.off + pre.length ∧
      ∀ (s2 : List Byte) (l2 : List Ev), ∃ l2', evalImpl a p fuel name ⟨c.off, pre ++ s2, l2⟩ = .ok v ⟨c'.off, s2, l2'⟩ :=
  (eval_loc a p hp fuel).impl name c v c' h

/-- `C03_locality` for every supported specification (`Supported a` implies exact size impls) -/
theorem C03_locality_supported (a : Ast) (m : Module) (hs : Supported a = true) (hg : generateModule a = .ok m)
    (fuel : Nat) (name : String) (c : Cur) (v : Val) (c' : Cur) (h : evalImpl a m.plans fuel name c = .ok v c') :
    ∃ pre, c.data = pre ++ c'.data ∧ c'.off = c.off + pre.length ∧
      ∀ (s2 : List Byte) (l2 : List Ev), ∃ l2', evalImpl a m.plans fuel name ⟨c.off, pre ++ s2, l2⟩ = .ok v ⟨c'.off, s2, l2'⟩ :=
  C03_locality a m.plans (supported_plans hs hg).2 fuel name c v c' h

/-- the recursion budget of the model is not observable: any answer other than `outOfFuel` is the answer at every larger budget -/
theorem C03_fuel_irrelevant (a : Ast) (p : Plans) (name : String) (c : Cur) (f g : Nat) (hfg : f ≤ g)
    (h : evalImpl a p f name c ≠ .outOfFuel) : evalImpl a p g name c = evalImpl a p f name c :=
  evalImpl_fuel_mono a p name c f g hfg h

/-- **C03 (position independence)**: "nor on where the view sits inside a larger allocation" — the same error, or the same
    value with every opaque leaf (`Val.shift`) and the cursor `δ` further. -/
theorem C03_position_independent (a : Ast) (p : Plans) (fuel : Nat) (name : String) (off δ : Nat) (data : List Byte) (log : List Ev) :
    evalImpl a p fuel name ⟨off + δ, data, log⟩ =
      (evalImpl a p fuel name ⟨off, data, log⟩).shiftWith (Val.shift δ) δ :=
  (eval_shift a p δ fuel).impl name ⟨off, data, log⟩

/-- what moves and what does not: leaves move, their bytes, all sizes and every other part of the value stay -/
example : (Val.struct "s" ["a", "b"] (.cons (.u32 7) (.cons (.bytes 4 [1, 2]) .nil))).shift 100 =
    Val.struct "s" ["a", "b"] (.cons (.u32 7) (.cons (.bytes 104 [1, 2]) .nil)) := by
  simp [Val.shift, Vals.shift]

end Fx.C03
