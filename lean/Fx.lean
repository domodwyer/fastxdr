-- root of the `Fx` library: model, lemmas and property theorems
import Fx.Basic
import Fx.Runtime
import Fx.Peg
import Fx.Grammar
import Fx.Ast
import Fx.Walk
import Fx.Index
import Fx.Plan
import Fx.Emit
import Fx.Render
import Fx.Eval
import Fx.Xdr
import Fx.XGen
import Fx.OutputOk
import Fx.Supported
import Fx.Cli
import Fx.Finite
import Fx.Lemmas.Runtime
import Fx.Lemmas.EvalBasics
import Fx.Lemmas.Generic
import Fx.Lemmas.Out
import Fx.Lemmas.Bins
import Fx.Lemmas.NoPanic
import Fx.Lemmas.Advance
import Fx.Lemmas.Leaves
import Fx.Lemmas.LogBound
import Fx.Lemmas.Consumed
import Fx.Lemmas.Enc
import Fx.Lemmas.Typed
import Fx.Lemmas.Reads
import Fx.Lemmas.Emit
import Fx.Lemmas.SupportedFacts
import Fx.Lemmas.EmitShapes
import Fx.Lemmas.PayloadTy
import Fx.Lemmas.EmitPlans
import Fx.Lemmas.Selects
import Fx.Lemmas.Decodes
import Fx.Lemmas.Local
import Fx.Lemmas.Fuel
import Fx.Lemmas.Shift
import Fx.Lemmas.Terminates
import Fx.Lemmas.Eats
import Fx.Lemmas.Total
import Fx.Lemmas.Membership
import Fx.Lemmas.PegEval
import Fx.Lemmas.PegTerm
import Fx.Lemmas.PegFuel
import Fx.Lemmas.PegShape
import Fx.Lemmas.WalkEq
import Fx.Lemmas.WalkTotal
import Fx.Lemmas.EmitTotal
import Fx.Lemmas.PegRel
import Fx.Lemmas.ParseSyntax
import Fx.Lemmas.ParseRules
import Fx.Lemmas.ParseAhead
import Fx.Lemmas.ParseLayout
import Fx.Lemmas.ParseLeaf
import Fx.Lemmas.ParseAcc
import Fx.Lemmas.ParseField
import Fx.Lemmas.ParseDecl
import Fx.Lemmas.ParseUnion
import Fx.Lemmas.ParseSpec
import Fx.Lemmas.ParseSim
import Fx.Lemmas.ParseNorm
import Fx.Lemmas.ParseAst
import Fx.Lemmas.ParsePlain
import Fx.Lemmas.PegLimit
import Fx.Lemmas.KnownPanics
import Fx.Lemmas.Depth
import Fx.Lemmas.Limits
import Fx.Lemmas.Fits
import Fx.Lemmas.IndexFacts
import Fx.Lemmas.Linear
import Fx.Props.C01
import Fx.Props.C02
import Fx.Props.C03
import Fx.Props.C04
import Fx.Props.C05
import Fx.Props.C06
import Fx.Props.C07
import Fx.Props.C08
import Fx.Props.C09
import Fx.Props.C10
import Fx.Props.C11
import Fx.Props.C12
import Fx.Props.C13
import Fx.Props.C14
import Fx.Props.C15
